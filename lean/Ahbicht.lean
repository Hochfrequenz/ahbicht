import Ahbicht.Generated.Berlin
import Ahbicht.Generated.Cfv
import Ahbicht.Generated.CharClasses
import Ahbicht.Generated.CopyMode
import Ahbicht.Generated.Grammar
import Ahbicht.Generated.Indicators
import Ahbicht.Generated.NodeTypes
import Ahbicht.Generated.Schemas
import Ahbicht.Generated.Validation
import Ahbicht.Lemmas.CFV
import Ahbicht.Lemmas.Calendar
import Ahbicht.Lemmas.Context
import Ahbicht.Lemmas.Except
import Ahbicht.Lemmas.Flat
import Ahbicht.Lemmas.Full
import Ahbicht.Lemmas.Heap
import Ahbicht.Lemmas.Lang
import Ahbicht.Lemmas.Chars
import Ahbicht.Lemmas.Lex
import Ahbicht.Lemmas.Parse
import Ahbicht.Lemmas.Product
import Ahbicht.Lemmas.Rc
import Ahbicht.Lemmas.Spell
import Ahbicht.Lemmas.Subst
import Ahbicht.Lemmas.Tasks
import Ahbicht.Lemmas.Val
import Ahbicht.Lemmas.ValTables
import Ahbicht.Model.Ahb
import Ahbicht.Model.AhbEval
import Ahbicht.Model.Async
import Ahbicht.Model.CFV
import Ahbicht.Model.Chars
import Ahbicht.Model.Expr
import Ahbicht.Model.Extract
import Ahbicht.Model.Fc
import Ahbicht.Model.Full
import Ahbicht.Model.Heap
import Ahbicht.Model.Json
import Ahbicht.Model.Keys
import Ahbicht.Model.Lex
import Ahbicht.Model.Parse
import Ahbicht.Model.Rc
import Ahbicht.Model.RcSpec
import Ahbicht.Model.Resolve
import Ahbicht.Model.Time
import Ahbicht.Model.Iso
import Ahbicht.Model.Val
import Ahbicht.Model.ValTypes
import Ahbicht.Properties.C01
import Ahbicht.Properties.C01Every
import Ahbicht.Properties.C02
import Ahbicht.Properties.C02Ahb
import Ahbicht.Properties.C02Lex
import Ahbicht.Properties.C03
import Ahbicht.Properties.C04
import Ahbicht.Properties.C05
import Ahbicht.Properties.C05Brackets
import Ahbicht.Properties.C06
import Ahbicht.Properties.C06Check
import Ahbicht.Properties.C07
import Ahbicht.Properties.C07Str
import Ahbicht.Properties.C08
import Ahbicht.Properties.C09
import Ahbicht.Properties.C09Split
import Ahbicht.Properties.C10
import Ahbicht.Properties.C11
import Ahbicht.Properties.C12
import Ahbicht.Properties.C13
import Ahbicht.Properties.C13Full
import Ahbicht.Properties.C14
import Ahbicht.Properties.C15
import Ahbicht.Properties.C16
import Ahbicht.Properties.C16Full
import Ahbicht.Properties.C17
import Ahbicht.Properties.C18
import Ahbicht.Properties.C19
import Ahbicht.Properties.C20
import Ahbicht.Properties.C20Eu
import Ahbicht.Properties.C20Iso
import Ahbicht.Properties.C20Write
import Ahbicht.Properties.Grammar
