import Ahbicht.Generated.CopyMode
import Ahbicht.Lemmas.Heap
/-!
# C11 — parsing is a pure function of the string, whatever happened before

Under `deep`, every state reachable by parse calls and in-place edits satisfies `Inv` (Lemmas/Heap.lean): the cache cells still spell the pure parse.
-/
namespace Ahbicht.Properties.C11
open Ahbicht

/-- what a history of calls would return if parsing were a pure function -/
def pureAnswers (pp : String → Option LTree) : List HOp → List (Option LTree)
  | [] => []
  | .parse s :: rest => pp s :: pureAnswers pp rest
  | .edit _ _ _ :: rest => pureAnswers pp rest

theorem runOps_pure (pp : String → Option LTree) (cap : Nat) :
    ∀ (ops : List HOp) (st : State), Inv pp st → runOps pp .deep cap st ops = pureAnswers pp ops
  | [], _, _ => rfl
  | .parse s :: rest, st, hI => by
    obtain ⟨hI', hans⟩ := parseOp_spec (cap := cap) hI s
    simp only [runOps, pureAnswers]
    rw [hans, runOps_pure pp cap rest _ hI']
  | .edit root path e :: rest, st, hI => runOps_pure pp cap rest _ (hI.edit root path e)

/-- an observation with decidable equality (`LTree` has none): the type of the first child if it is a token, else the root's data -/
def probe : Option LTree → Option String
  | some (.node _ (.consTok ty _ _)) => some ty
  | some (.node d _) => some d
  | none => none

/-- **C11.** Under `deep`, for every pure parser, every cache capacity and every finite history of parse calls (hits, misses, evictions)
and in-place edits of returned trees, every parse call returns the pure parse of its argument. -/
theorem C11_pure (pp : String → Option LTree) (cap : Nat) (ops : List HOp) :
    runOps pp .deep cap State.init ops = pureAnswers pp ops :=
  runOps_pure pp cap ops State.init (Inv.init pp)

/-- the discipline extracted from the code (`copy_mode` in vf/extract.py) is the string "deep"; that this string names `CopyMode.deep`
is by reading vf/extract.py, nothing in Lean ties the two -/
theorem C11_code_copies_deeply : Generated.copyMode = "deep" := by decide

/-- `shareChildren` is lark's `Tree.copy()`: a new `Tree` around the same children list -/
theorem C11_share_counterexample :
    let t : LTree := .node "and_composition" (.consTree (.node "condition" (.consTok "CONDITION_KEY" "1" .nil))
      (.consTree (.node "condition" (.consTok "CONDITION_KEY" "2" .nil)) .nil))
    let pp : String → Option LTree := fun s => if s = "[1] U [2]" then some t else none
    let ops : List HOp := [.parse "[1] U [2]", .edit 0 [] (.replace 0 (.tok "X" "x")), .parse "[1] U [2]"]
    runOps pp .shareChildren 1024 State.init ops ≠ pureAnswers pp ops := by
  intro t pp ops h
  have h2 := congrArg (List.map probe) h
  simp [ops, pp, t, runOps, parseOp, pureAnswers, State.init, Heap.empty, handOut, allocTree, allocForest, editOp, navigate,
    resolveChild, setList, readTree, readItems, probe] at h2

end Ahbicht.Properties.C11

