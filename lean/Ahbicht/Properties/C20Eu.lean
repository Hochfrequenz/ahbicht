import Ahbicht.Properties.C20
/-!
# C20 — German local time is CET/CEST by the EU rule at *every* instant from 1996 to 2037

`C20_pytz_is_eu_rule` compares rows; here the offset the code uses is shown for every second between the rows.
-/
namespace Ahbicht.Properties.C20
open Ahbicht Generated

/-- last Sunday of March resp. October, 01:00 UTC (UTC second) -/
def summerStart (y : Int) : Int := lastSunday31 y 3 * 86400 + 3600
def summerEnd (y : Int) : Int := lastSunday31 y 10 * 86400 + 3600

def inSummerTime (y : Int) (t : Int) : Prop := summerStart y ≤ t ∧ t < summerEnd y

theorem offsetAt_split (pre post : List (Int × Int)) (a : Int × Int) (t : Int)
    (ha : a.1 ≤ t) (hpost : ∀ e ∈ post, t < e.1) : offsetAt (pre ++ a :: post) t = a.2 := by
  have hp : post.filter (fun e => decide (e.1 ≤ t)) = [] :=
    List.filter_eq_nil_iff.2 fun e he => by simpa using hpost e he
  unfold offsetAt
  rw [List.filter_append, List.filter_cons_of_pos (by simpa using ha), hp, List.getLast?_append]
  simp

/-- rows in increasing order of time, as pytz keeps them -/
def increasing : List (Int × Int) → Bool
  | a :: b :: l => decide (a.1 < b.1) && increasing (b :: l)
  | _ => true

/-- what lies before the head of an increasing list lies before all of it -/
theorem lt_of_lt_head {l : List (Int × Int)} (hs : l.Pairwise fun a b => a.1 < b.1) {t : Int}
    (h : ∀ b, l.head? = some b → t < b.1) : ∀ e ∈ l, t < e.1 := by
  cases l with
  | nil => nofun
  | cons b l =>
    intro e he
    rcases List.mem_cons.1 he with rfl | he
    · exact h _ rfl
    · exact Int.lt_trans (h _ rfl) (List.rel_of_pairwise_cons hs he)

theorem pairwise_of_increasing : ∀ l : List (Int × Int), increasing l = true → l.Pairwise fun a b => a.1 < b.1
  | [], _ => .nil
  | [_], _ => List.pairwise_singleton _ _
  | a :: b :: l, h => by
    obtain ⟨hab, hl⟩ := Bool.and_eq_true_iff.1 h
    have ih := pairwise_of_increasing (b :: l) hl
    exact List.pairwise_cons.2 ⟨lt_of_lt_head ih fun _ hb => by cases hb; exact of_decide_eq_true hab, ih⟩

/-- `h2` speaks of `table[k + 1]?` so that the last row, in force for ever, is covered too -/
theorem offsetAt_row (table : List (Int × Int)) (hs : table.Pairwise fun a b => a.1 < b.1) (k : Nat) (a : Int × Int)
    (ha : table[k]? = some a) (t : Int) (h1 : a.1 ≤ t) (h2 : ∀ b, table[k + 1]? = some b → t < b.1) : offsetAt table t = a.2 := by
  have hd : table.drop k = a :: table.drop (k + 1) := by rw [List.drop_eq_getElem?_toList_append, ha]; rfl
  rw [← List.take_append_drop k table, hd]
  exact offsetAt_split _ _ a t h1 (lt_of_lt_head hs.drop fun b hb => h2 b (List.head?_drop ▸ hb))

theorem berlin_increasing : berlinTransitions.Pairwise fun a b => a.1 < b.1 := pairwise_of_increasing _ (by decide +kernel)

/-- rows 59 … 142, the last of the pytz table; row 58 is the end of summer time 1995 (last Sunday of September) -/
theorem eu_rows : ∀ i, i < 42 → (berlinTransitions.drop 59)[2 * i]? = some (summerStart (1996 + (i : Nat)), 7200) ∧
    (berlinTransitions.drop 59)[2 * i + 1]? = some (summerEnd (1996 + (i : Nat)), 3600) := by
  decide +kernel

theorem year_index (y hi : Int) (hy : 1996 ≤ y ∧ y ≤ hi) : ∃ i : Nat, (i : Int) ≤ hi - 1996 ∧ y = 1996 + (i : Nat) :=
  ⟨(y - 1996).toNat, by omega⟩

/-- **C20 (summer, winter).** +2 h inside the EU summer-time interval of a year 1996 … 2037, +1 h from its end to the next start. -/
theorem C20_eu_summer (y : Int) (hy : 1996 ≤ y ∧ y ≤ 2037) (t : Int) (h : inSummerTime y t) : berlinOffset t = 7200 := by
  obtain ⟨i, hi, rfl⟩ := year_index y 2037 hy
  obtain ⟨ha, hb⟩ := eu_rows i (by omega)
  rw [List.getElem?_drop] at ha hb
  exact offsetAt_row _ berlin_increasing _ _ ha t h.1 fun b hb' => by cases hb.symm.trans hb'; exact h.2

theorem C20_eu_winter (y : Int) (hy : 1996 ≤ y ∧ y ≤ 2036) (t : Int) (h : summerEnd y ≤ t ∧ t < summerStart (y + 1)) :
    berlinOffset t = 3600 := by
  obtain ⟨i, hi, rfl⟩ := year_index y 2036 hy
  have ha := (eu_rows i (by omega)).2
  have hb := (eu_rows (i + 1) (by omega)).1
  rw [List.getElem?_drop] at ha hb
  rw [Nat.mul_add_one, Int.natCast_add_one, ← Int.add_assoc] at hb
  exact offsetAt_row _ berlin_increasing _ _ ha t h.1 fun b hb' => by cases hb.symm.trans hb'; exact h.2

/-- **C20 (the two ends).** +1 h from 1996-01-01 to the first switch, and for ever after the last one of 2037: the pytz table ends there. -/
theorem C20_eu_before_first (t : Int) (h : daysFromCivil 1996 1 1 * 86400 ≤ t ∧ t < summerStart 1996) : berlinOffset t = 3600 :=
  offsetAt_row _ berlin_increasing 58 (811904400, 3600) (by decide +kernel) t (Int.le_trans (by decide +kernel) h.1)
    fun b hb => by cases (List.getElem?_drop ▸ (eu_rows 0 (by decide)).1).symm.trans hb; exact h.2
theorem C20_eu_after_last (t : Int) (h : summerEnd 2037 ≤ t) : berlinOffset t = 3600 :=
  offsetAt_row _ berlin_increasing (59 + (2 * 41 + 1)) (summerEnd 2037, 3600) (List.getElem?_drop ▸ (eu_rows 41 (by decide)).2) t h
    fun b hb => by cases (show berlinTransitions[59 + (2 * 41 + 1) + 1]? = none by decide +kernel).symm.trans hb

theorem verdict_of_offset (w : Written) (o : Int) (ho : berlinOffset (instant w) = o) (h0 : 0 < o) (h1 : o ≤ 21600) :
    (isStromtagLimit w = true ↔ instant w % 86400 = 86400 - o) ∧ (isGastagLimit w = true ↔ instant w % 86400 = 21600 - o) := by
  rw [C20_strom, C20_gas, localTod, ho]
  omega

/-- **C20 (closed form).** 932/933 hold exactly at 22:00:00 UTC in summer and 23:00:00 in winter, 934/935 at 04:00:00 and 05:00:00. -/
theorem C20_eu_verdict_summer (y : Int) (hy : 1996 ≤ y ∧ y ≤ 2037) (w : Written) (h : inSummerTime y (instant w)) :
    (isStromtagLimit w = true ↔ instant w % 86400 = 22 * 3600) ∧ (isGastagLimit w = true ↔ instant w % 86400 = 4 * 3600) :=
  verdict_of_offset w 7200 (C20_eu_summer y hy _ h) (by decide) (by decide)
theorem C20_eu_verdict_winter (y : Int) (hy : 1996 ≤ y ∧ y ≤ 2036) (w : Written)
    (h : summerEnd y ≤ instant w ∧ instant w < summerStart (y + 1)) :
    (isStromtagLimit w = true ↔ instant w % 86400 = 23 * 3600) ∧ (isGastagLimit w = true ↔ instant w % 86400 = 5 * 3600) :=
  verdict_of_offset w 3600 (C20_eu_winter y hy _ h) (by decide) (by decide)

/-! non-vacuity: 2022-06-01T00:00:00+02:00 lies in the summer time of 2022, 2022-12-24T00:00:00+01:00 in the winter 2022/23 -/
example : inSummerTime 2022 (instant ⟨2022, 6, 1, 0, 0, 0, 7200⟩) := by unfold inSummerTime; decide +kernel
example : summerEnd 2022 ≤ instant ⟨2022, 12, 24, 0, 0, 0, 3600⟩ ∧ instant ⟨2022, 12, 24, 0, 0, 0, 3600⟩ < summerStart 2023 := by
  decide +kernel

end Ahbicht.Properties.C20
