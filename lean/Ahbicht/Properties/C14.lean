import Ahbicht.Lemmas.Val
/-!
# C14 — `soll_is_required` is equivalent to rewriting SOLL at every level
-/
namespace Ahbicht.Properties.C14
open Ahbicht

def rewriteRes (b : Bool) : NodeRes → NodeRes
  | .ok r => .ok (if r.ind = .SOLL then { r with ind := if b then .MUSS else .KANN } else r)
  | x => x

def rewriteDE (b : Bool) : DataElement → DataElement
  | .free d res i v => .free d (rewriteRes b res) i v
  | x => x

def rewriteSeg (b : Bool) (s : Segment) : Segment :=
  { s with res := rewriteRes b s.res, des := s.des.map (rewriteDE b) }

mutual
def rewriteGroup (b : Bool) : Group → Group
  | .mk d res gs ss => .mk d (rewriteRes b res) (rewriteGroups b gs) (ss.map (rewriteSeg b))
def rewriteGroups (b : Bool) : Groups → Groups
  | .nil => .nil
  | .cons g gs => .cons (rewriteGroup b g) (rewriteGroups b gs)
end

/-- the table fact behind C14: the mapping reads SOLL through the flag and looks at the flag for nothing else -/
theorem map_rewrite : ∀ (f : Option Bool) (i : Ind) (b b' : Bool),
    mapOwn f i b = mapOwn f (if i = .SOLL then (if b then .MUSS else .KANN) else i) b' := by
  intro f i b b'
  rw [mapOwn_eq_spec, mapOwn_eq_spec]
  cases i <;> cases b <;> rfl

theorem rewriteRes_ok (b : Bool) (r : EvalRes) :
    rewriteRes b (.ok r) = .ok { r with ind := if r.ind = .SOLL then (if b then .MUSS else .KANN) else r.ind } := by
  rw [rewriteRes]
  split <;> rfl

theorem segLevel_rewrite (res : NodeRes) (p : Option RVV) (b b' : Bool) :
    segLevel res p b = segLevel (rewriteRes b res) p b' := by
  cases res with
  | invalid m => rfl
  | ok r => simp only [rewriteRes_ok, segLevel, map_rewrite r.fulfilled r.ind b b']

theorem C14_data_element (de : DataElement) (st : RVV) (b b' : Bool) :
    validateDataElement de st b = validateDataElement (rewriteDE b de) st b' := by
  cases de with
  | pool d es i => rfl
  | free d res i v =>
    cases res with
    | invalid m => rfl
    | ok r => simp only [rewriteDE, rewriteRes_ok, validateDataElement, map_rewrite r.fulfilled r.ind b b']

theorem C14_segment (s : Segment) (p : Option RVV) (b b' : Bool) :
    validateSegment s p b = validateSegment (rewriteSeg b s) p b' := by
  simp only [validateSegment_eq, rewriteSeg, ← segLevel_rewrite s.res p b b', List.mapM_map, Function.comp_def,
    ← C14_data_element _ _ b b']

mutual
theorem C14_group : ∀ (g : Group) (p : Option RVV) (b b' : Bool),
    validateGroup g p b = validateGroup (rewriteGroup b g) p b'
  | .mk d res gs ss, p, b, b' => by
    simp only [rewriteGroup, validateGroup_eq, ← segLevel_rewrite res p b b', ← C14_groups gs _ b b', List.mapM_map,
      Function.comp_def, ← C14_segment _ _ b b']
theorem C14_groups : ∀ (gs : Groups) (p : Option RVV) (b b' : Bool),
    validateGroups gs p b = validateGroups (rewriteGroups b gs) p b'
  | .nil, p, b, b' => rfl
  | .cons g rest, p, b, b' => by
    rw [rewriteGroups, validateGroups_cons, validateGroups_cons, C14_group g p b b', C14_groups rest p b b']
end

/-- **C14.** Validating with flag `b` = validating, with any flag, the AHB whose SOLLs are rewritten (MUSS for `true`, KANN for
`false`) in groups, segments and free-text elements at every depth. -/
theorem C14 (lines : Groups) (b b' : Bool) : validateAhb lines b = validateAhb (rewriteGroups b lines) b' := by
  simp only [validateAhb]
  exact C14_groups lines none b b'

end Ahbicht.Properties.C14
