import Ahbicht.Model.Val
import Ahbicht.Lemmas.Except
import Ahbicht.Lemmas.Product
/-!
# C17 — value pools offer exactly the admissible qualifiers and judge input by them
-/
namespace Ahbicht.Properties.C17
open Ahbicht

theorem any_fst_iff (poss : List (String × String)) (i : String) :
    poss.any (·.1 == i) = true ↔ i ∈ poss.map (·.1) := by
  simp only [List.any_eq_true, List.mem_map, beq_iff_eq]

/-- Python's dict: a repeated key keeps its place, a new one goes to the end -/
theorem dictInsert_keys (d : List (String × String)) (k v : String) :
    (dictInsert d k v).map (·.1) = d.map (·.1) ++ [k].filter (· ∉ d.map (·.1)) := by
  unfold dictInsert
  by_cases h : k ∈ d.map (·.1)
  · rw [if_pos ((any_fst_iff d k).2 h), List.filter_cons_of_neg (p := (· ∉ d.map (·.1))) (not_not_intro h ∘ of_decide_eq_true), List.filter_nil, List.append_nil,
      List.map_map]
    refine List.map_congr_left fun a _ => ?_
    show (if a.1 == k then (k, v) else a).1 = a.1
    split
    · next hak => exact (beq_iff_eq.1 hak).symm
    · rfl
  · rw [if_neg (mt (any_fst_iff d k).1 h), List.filter_cons_of_pos (p := (· ∉ d.map (·.1))) (decide_eq_true h), List.map_append]
    rfl

theorem foldl_dictInsert_keys (l : List PoolEntry) (d : List (String × String)) :
    (l.foldl (fun d e => dictInsert d e.qualifier e.meaning) d).map (·.1) =
      d.map (·.1) ++ (dedupKeys (l.map (·.qualifier))).filter (· ∉ d.map (·.1)) := by
  induction l generalizing d with
  | nil => exact (List.append_nil _).symm
  | cons e es ih =>
    have hc : ∀ (p : String → Bool) L, List.filter p (e.qualifier :: L) = List.filter p [e.qualifier] ++ List.filter p L :=
      fun p L => List.filter_append (l₁ := [e.qualifier]) ..
    rw [List.foldl_cons, ih, List.map_cons, dedupKeys, hc, List.filter_filter, dictInsert_keys, List.append_assoc]
    congr 2
    -- not among the keys after the insertion = not among the keys before, and not the inserted key
    refine List.filter_congr fun a _ => ?_
    rw [← Bool.decide_and, decide_eq_decide, List.mem_append, List.mem_filter, List.mem_singleton, decide_eq_true_eq, not_or]
    exact and_congr_right fun hk => ⟨fun h e => h ⟨e, hk⟩, fun h e => h e.1⟩

theorem offered_general (es : List PoolEntry) (st : RVV) (hst : st ≠ .IS_FORBIDDEN) (hlen : es.length ≠ 1) :
    offered es st = (es.filter entryOffered).foldl (fun d e => dictInsert d e.qualifier e.meaning) [] := by
  unfold offered
  rw [if_neg hst]
  match es, hlen with
  | [], _ => rfl
  | [e], h => exact absurd rfl h
  | _ :: _ :: _, _ => rfl

/-- **C17 (entry).** Offered iff its own expression is fulfilled; an invalid one counts as selectable (C16). -/
theorem C17_entry_offered (e : PoolEntry) :
    entryOffered e = true ↔ (∃ msg, e.res = .invalid msg) ∨ (∃ r, e.res = .ok r ∧ r.fulfilled = some true) := by
  unfold entryOffered
  cases h : e.res with
  | invalid msg => simp
  | ok r => simp

/-- **C17 (single entry).** Offered without looking at its expression (the code: such elements are just labelled "X"). -/
theorem C17_single (e : PoolEntry) (st : RVV) (hst : st ≠ .IS_FORBIDDEN) : offered [e] st = [(e.qualifier, e.meaning)] := by
  unfold offered
  rw [if_neg hst]

/-- **C17 (forbidden segment).** The entries are not looked at: nothing is offered. -/
theorem C17_forbidden_segment (es : List PoolEntry) : offered es .IS_FORBIDDEN = [] := by
  unfold offered
  rw [if_pos rfl]

/-- **C17 (offered values).** Otherwise: the qualifiers of the fulfilled entries in pool order, a repeated one at its first position.
Qualifiers only: which meaning a repeated one keeps is not stated. -/
theorem C17_offered (es : List PoolEntry) (st : RVV) (hst : st ≠ .IS_FORBIDDEN) (hlen : es.length ≠ 1) :
    (offered es st).map (·.1) = dedupKeys ((es.filter entryOffered).map (·.qualifier)) := by
  rw [offered_general es st hst hlen, foldl_dictInsert_keys]
  simp

theorem C17_offered_mem (es : List PoolEntry) (st : RVV) (hst : st ≠ .IS_FORBIDDEN) (hlen : es.length ≠ 1) (q : String) :
    q ∈ (offered es st).map (·.1) ↔ ∃ e ∈ es, e.qualifier = q ∧ entryOffered e = true := by
  rw [C17_offered es st hst hlen, mem_dedupKeys, List.mem_map]
  exact exists_congr fun e => by rw [List.mem_filter, and_assoc, and_comm (b := e.qualifier = q)]

def inputOffered (input : Option String) (poss : List (String × String)) : Prop :=
  ∃ i, input = some i ∧ i ∈ poss.map (·.1)

theorem inputOffered_iff (input : Option String) (poss : List (String × String)) :
    (match input with | some i => poss.any (·.1 == i) | none => false) = true ↔ inputOffered input poss := by
  cases input with
  | none => exact ⟨nofun, fun ⟨_, h, _⟩ => nomatch h⟩
  | some i => exact (any_fst_iff poss i).trans ⟨fun h => ⟨i, rfl, h⟩, fun ⟨_, h, hi⟩ => Option.some.inj h ▸ hi⟩

/-- **C17 (judging the input).** Never fails; nothing offered ⇒ forbidden; otherwise accepted iff offered, an unexpected value flagged
(format flag false) and reported empty. -/
theorem C17_result (disc : String) (es : List PoolEntry) (input : Option String) (st : RVV) (soll : Bool) :
    ∃ o, validateDataElement (.pool disc es input) st soll = .ok o ∧ o.possible = some (offered es st) ∧ o.disc = disc ∧
      (offered es st = [] → o.status = .IS_FORBIDDEN) ∧
      (offered es st ≠ [] →
        (inputOffered input (offered es st) → o.status = .IS_REQUIRED_AND_FILLED ∧ o.fcOk = some true) ∧
        (¬ inputOffered input (offered es st) → truthyStr input = true → o.status = .IS_REQUIRED_AND_EMPTY ∧ o.fcOk = some false) ∧
        (¬ inputOffered input (offered es st) → truthyStr input = false → o.status = .IS_REQUIRED_AND_EMPTY ∧ o.fcOk = some true)) := by
  simp only [validateDataElement]
  -- the three tests of the code, one after the other
  refine Sat.exists_ok (.ite (fun hE => ?_) fun hE => .ite (fun hc => ?_) fun hc => .ite (fun hT => ?_) fun hT => ?_)
  · have hE := List.isEmpty_iff.1 hE
    exact ⟨hE ▸ rfl, rfl, fun _ => rfl, (absurd hE ·)⟩
  all_goals have hE : offered es st ≠ [] := fun h => hE (List.isEmpty_iff.2 h)
  · have hc := (inputOffered_iff ..).1 hc
    exact ⟨rfl, rfl, (absurd · hE), fun _ => ⟨fun _ => ⟨rfl, rfl⟩, (absurd hc ·), (absurd hc ·)⟩⟩
  · exact ⟨rfl, rfl, (absurd · hE), fun _ =>
      ⟨fun h => absurd ((inputOffered_iff ..).2 h) hc, fun _ _ => ⟨rfl, rfl⟩, fun _ h => absurd hT (h ▸ nofun)⟩⟩
  · exact ⟨rfl, rfl, (absurd · hE), fun _ =>
      ⟨fun h => absurd ((inputOffered_iff ..).2 h) hc, fun _ h => absurd h hT, fun _ _ => ⟨rfl, rfl⟩⟩⟩

theorem C17_accept_iff (disc : String) (es : List PoolEntry) (input : Option String) (st : RVV) (soll : Bool) (o : Out)
    (h : validateDataElement (.pool disc es input) st soll = .ok o) :
    o.status = .IS_REQUIRED_AND_FILLED ↔ inputOffered input (offered es st) := by
  obtain ⟨_, ho, _, _, hF, hN⟩ := C17_result disc es input st soll
  cases h.symm.trans ho
  constructor
  · intro h2
    refine Classical.byContradiction fun hI => ?_
    by_cases hE : offered es st = []
    · cases (hF hE).symm.trans h2
    · cases hT : truthyStr input with
      | true => cases ((hN hE).2.1 hI hT).1.symm.trans h2
      | false => cases ((hN hE).2.2 hI hT).1.symm.trans h2
  · intro hI
    have hE : offered es st ≠ [] := fun hE => by
      obtain ⟨_, _, hi⟩ := hI
      rw [hE] at hi
      cases hi
    exact ((hN hE).1 hI).1

end Ahbicht.Properties.C17

