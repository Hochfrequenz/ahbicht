import Ahbicht.Model.Extract
import Ahbicht.Lemmas.Product
import Ahbicht.Generated.NodeTypes
/-!
# C18 — key extraction partitions keys by range; all possible evaluations enumerated
-/
namespace Ahbicht.Properties.C18
open Ahbicht Generated

def codeOf : Option Kind → Nat
  | none => 0 | some .rc => 1 | some .hint => 2 | some .fc => 3 | some .repeatability => 4 | some .package => 5

def expandRuns : List (Nat × Nat) → List Nat
  | [] => []
  | (c, n) :: rest => List.replicate n c ++ expandRuns rest

/-- `f` is constant `c` on the next `n` numbers from `s` on, for each run `(c, n)` in turn -/
def Steps (f : Nat → Nat) : Nat → List (Nat × Nat) → Prop
  | _, [] => True
  | s, (c, n) :: rest => (∀ i, s ≤ i → i < s + n → f i = c) ∧ Steps f (s + n) rest

theorem expandRuns_eq_map {f : Nat → Nat} : ∀ {runs : List (Nat × Nat)} {s : Nat}, Steps f s runs →
    expandRuns runs = (List.range' s (runs.map (·.2)).sum).map f
  | [], _, _ => rfl
  | (c, n) :: rest, s, ⟨h, hrest⟩ => by
    rw [expandRuns, List.map_cons, List.sum_cons, ← List.range'_append_1, List.map_append, ← expandRuns_eq_map hrest]
    congr 1
    exact (List.eq_replicate_iff.2 ⟨by simp, fun b hb => by
      obtain ⟨i, hi, rfl⟩ := List.mem_map.1 hb
      have := List.mem_range'_1.1 hi
      exact h i this.1 this.2⟩).symm

/-- **C18 (ranges).** The number ranges of `derive_condition_node_type`; `none` is its `ValueError`. -/
theorem C18_ranges (n : Nat) :
    (nodeTypeNat n = some .rc ↔ 1 ≤ n ∧ n ≤ 499) ∧
    (nodeTypeNat n = some .repeatability ↔ 2000 ≤ n ∧ n ≤ 2499) ∧
    (nodeTypeNat n = some .hint ↔ 500 ≤ n ∧ n ≤ 900) ∧
    (nodeTypeNat n = some .fc ↔ 901 ≤ n ∧ n ≤ 999) ∧
    (nodeTypeNat n = none ↔ n = 0 ∨ (1000 ≤ n ∧ n ≤ 1999) ∨ 2500 ≤ n) := by
  -- one conjunct at a time: on the whole conjunction `omega`'s case splits multiply
  fun_cases nodeTypeNat n <;> simp only [Option.some.injEq, reduceCtorEq, true_iff, false_iff] <;>
    refine ⟨?_, ?_, ?_, ?_, ?_⟩ <;> omega

/-- the code's answers on 0 … 3000 (extracted, run-length encoded) are the documented range function -/
theorem C18_table : expandRuns nodeTypeRuns = (List.range 3001).map (fun n => codeOf (nodeTypeNat n)) := by
  rw [List.range_eq_range']
  refine expandRuns_eq_map (s := 0) ⟨?_, ?_, ?_, ?_, ?_, ?_, ?_, trivial⟩ <;> intro i h1 h2 <;>
    obtain ⟨hrc, hrep, hhint, hfc, hnone⟩ := C18_ranges i <;> show codeOf (nodeTypeNat i) = _
  · rw [hnone.2 (by omega)]; rfl
  · rw [hrc.2 (by omega)]; rfl
  · rw [hhint.2 (by omega)]; rfl
  · rw [hfc.2 (by omega)]; rfl
  · rw [hnone.2 (by omega)]; rfl
  · rw [hrep.2 (by omega)]; rfl
  · rw [hnone.2 (by omega)]; rfl

theorem catOf_iff {k : List Char} (h : k.getLast? ≠ some 'P') :
    (catOf k = some .rc ↔ nodeTypeNat (digitsToNat k) = some .rc ∨ nodeTypeNat (digitsToNat k) = some .repeatability) ∧
    (catOf k = some .hint ↔ nodeTypeNat (digitsToNat k) = some .hint) ∧
    (catOf k = some .fc ↔ nodeTypeNat (digitsToNat k) = some .fc) := by
  unfold catOf nodeType
  rw [if_neg h]
  cases nodeTypeNat (digitsToNat k) with
  | none => simp
  | some v => cases v <;> simp

theorem C18_categories (k : List Char) (h : k.getLast? ≠ some 'P') :
    (catOf k = some .rc ↔ (1 ≤ digitsToNat k ∧ digitsToNat k ≤ 499) ∨ (2000 ≤ digitsToNat k ∧ digitsToNat k ≤ 2499)) ∧
    (catOf k = some .hint ↔ 500 ≤ digitsToNat k ∧ digitsToNat k ≤ 900) ∧
    (catOf k = some .fc ↔ 901 ≤ digitsToNat k ∧ digitsToNat k ≤ 999) := by
  obtain ⟨hrc, hrep, hhint, hfc, _⟩ := C18_ranges (digitsToNat k)
  rw [← hrc, ← hrep, ← hhint, ← hfc]
  exact catOf_iff h

theorem extractRaw_eq_some {e : Expr} {x : KeyExtract} (h : extractRaw e = some x) :
    (∀ k ∈ condKeys e, (catOf k).isSome) ∧
    x = { hint := (condKeys e).filter (fun k => catOf k == some .hint), fc := (condKeys e).filter (fun k => catOf k == some .fc),
          rc := (condKeys e).filter (fun k => catOf k == some .rc), pkg := pkgKeys e, time := timeKeys e } := by
  unfold extractRaw at h
  split at h <;> cases h
  exact ⟨List.all_eq_true.1 ‹_›, rfl⟩

/-- **C18 (partition).** Every condition key of the expression lands in exactly one of the three lists. -/
theorem C18_partition {e : Expr} {x : KeyExtract} (h : extractRaw e = some x) (k : List Char) (hk : Atom.cond k ∈ e.atoms) :
    (k ∈ x.rc ∧ k ∉ x.hint ∧ k ∉ x.fc) ∨ (k ∉ x.rc ∧ k ∈ x.hint ∧ k ∉ x.fc) ∨ (k ∉ x.rc ∧ k ∉ x.hint ∧ k ∈ x.fc) := by
  obtain ⟨hall, rfl⟩ := extractRaw_eq_some h
  have hmem : k ∈ condKeys e := mem_condKeys.2 hk
  have hc := hall k hmem
  cases hcat : catOf k with
  | none => simp [hcat] at hc
  | some c => cases c <;> simp [List.mem_filter, hmem, hcat]

/-- packages and time conditions are categorised by token type -/
theorem C18_partition_tokens {e : Expr} {x : KeyExtract} (h : extractRaw e = some x) :
    (∀ k, k ∈ x.pkg ↔ ∃ r, Atom.pkg k r ∈ e.atoms) ∧ (∀ k, k ∈ x.time ↔ Atom.time k ∈ e.atoms) := by
  obtain ⟨_, rfl⟩ := extractRaw_eq_some h
  exact ⟨fun _ => mem_pkgKeys, fun _ => mem_timeKeys⟩

/-- **C18 (every condition key once, ascending).** -/
theorem C18_sorted (x : KeyExtract) :
    let s := x.sanitize
    (s.rc.Nodup ∧ s.rc.Pairwise (fun a b => digitsToNat a ≤ digitsToNat b) ∧ ∀ k, k ∈ s.rc ↔ k ∈ x.rc) ∧
    (s.hint.Nodup ∧ s.hint.Pairwise (fun a b => digitsToNat a ≤ digitsToNat b) ∧ ∀ k, k ∈ s.hint ↔ k ∈ x.hint) ∧
    (s.fc.Nodup ∧ s.fc.Pairwise (fun a b => digitsToNat a ≤ digitsToNat b) ∧ ∀ k, k ∈ s.fc ↔ k ∈ x.fc) :=
  ⟨sortBy_dedupKeys _ x.rc, sortBy_dedupKeys _ x.hint, sortBy_dedupKeys _ x.fc⟩

theorem add_eq_sanitize {o : Op} {l r : Expr} {xl xr x : KeyExtract} (hl : extractRaw l = some xl) (hr : extractRaw r = some xr)
    (h : extractRaw (.bin o l r) = some x) : xl.add xr = x.sanitize := by
  rw [(extractRaw_eq_some hl).2, (extractRaw_eq_some hr).2, (extractRaw_eq_some h).2]
  simp only [KeyExtract.add, condKeys_bin, pkgKeys_bin, timeKeys_bin, List.filter_append]

/-- **C18 (union).** The extract of a composed expression holds exactly the keys of the extracts of its parts. -/
theorem C18_union {o : Op} {l r : Expr} {xl xr x : KeyExtract} (hl : extractRaw l = some xl) (hr : extractRaw r = some xr)
    (h : extractRaw (.bin o l r) = some x) :
    (∀ k, k ∈ (xl.add xr).rc ↔ k ∈ x.sanitize.rc) ∧ (∀ k, k ∈ (xl.add xr).hint ↔ k ∈ x.sanitize.hint) ∧
    (∀ k, k ∈ (xl.add xr).fc ↔ k ∈ x.sanitize.fc) := by
  rw [add_eq_sanitize hl hr h]
  exact ⟨fun _ => Iff.rfl, fun _ => Iff.rfl, fun _ => Iff.rfl⟩

/-- **C18 (product).** The code's "combinations of a product, filtered on distinct keys" are exactly the assignments of one value
per key, each once (keys without repetition, as sanitised lists are). -/
theorem C18_assignments {α β : Type} [DecidableEq α] [DecidableEq β] (keys : List α) (vals : List β) (hk : keys.Nodup) (hv : vals.Nodup) :
    (∀ z, z ∈ assignments keys vals ↔ (z.map (·.1) = keys ∧ ∀ p ∈ z, p.2 ∈ vals)) ∧ (assignments keys vals).Nodup :=
  ⟨fun z => (mem_assignments keys vals hk z).trans (mem_productSpec keys vals z), (nodup_combos _ _ (nodup_pairs keys vals hk hv)).filter _⟩

/-- "one value per key" for the generated pair (format assignment, requirement assignment) -/
def IsResult (fcKeys rcKeys : List (List Char)) (fr : List (List Char × Bool) × List (List Char × CFV)) : Prop :=
  fr.1.map (·.1) = fcKeys ∧ fr.2.map (·.1) = rcKeys ∧ ∀ p ∈ fr.2, p.2 = .F ∨ p.2 = .U ∨ p.2 = .K

theorem genResults_eq (fcKeys rcKeys : List (List Char)) :
    genResults fcKeys rcKeys = if fcKeys = [] ∧ rcKeys = [] then [] else
      (pairs (assignments fcKeys [true, false]) (assignments rcKeys [CFV.F, CFV.U, CFV.K, CFV.N])).filter
        fun fr => fr.2.all (fun kv => kv.2 != CFV.N) := by
  simp only [genResults, ite_isEmpty_assignments]
  simp only [Bool.and_eq_true, List.isEmpty_iff, pairs]

/-- **C18 (generated results), at least one key.** Exactly the pairs of a truth assignment to the format keys and an F/U/K
assignment to the requirement keys, each once. -/
theorem C18_product_partial (fcKeys rcKeys : List (List Char)) (hf : fcKeys.Nodup) (hr : rcKeys.Nodup)
    (hne : ¬ (fcKeys = [] ∧ rcKeys = [])) :
    (∀ fr, fr ∈ genResults fcKeys rcKeys ↔ IsResult fcKeys rcKeys fr) ∧ (genResults fcKeys rcKeys).Nodup := by
  obtain ⟨hfm, hfn⟩ := C18_assignments fcKeys [true, false] hf (by decide)
  obtain ⟨hrm, hrn⟩ := C18_assignments rcKeys [CFV.F, CFV.U, CFV.K, CFV.N] hr (by decide)
  rw [genResults_eq, if_neg hne]
  refine ⟨fun fr => ?_, (nodup_pairs _ _ hfn hrn).filter _⟩
  have hb : ∀ b : Bool, b ∈ [true, false] := by decide
  have hc : ∀ c : CFV, c ∈ [CFV.F, CFV.U, CFV.K, CFV.N] := by decide
  have hN : ∀ c : CFV, (c != CFV.N) = true ↔ c = .F ∨ c = .U ∨ c = .K := by decide
  simp only [List.mem_filter, mem_pairs, hfm, hrm, IsResult, List.all_eq_true, hb, hc, hN, implies_true, and_true, and_assoc]

/-- finding K2: without any key the code returns no result, though the product over zero keys has one element -/
theorem C18_empty_counterexample : genResults [] [] = [] ∧ (productSpec ([] : List (List Char)) [true, false]).length = 1 := by decide

/-! non-vacuity: two requirement keys, one format key -/
example : (genResults [['9','0','1']] [['1'], ['2']]).length = 2 * 3 * 3 := by decide +kernel
example : assignments [1, 2] ['a', 'b', 'c'] = productSpec [1, 2] ['a', 'b', 'c'] := by decide +kernel

end Ahbicht.Properties.C18
