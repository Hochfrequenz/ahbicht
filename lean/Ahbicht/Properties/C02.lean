import Ahbicht.Lemmas.Lang
import Ahbicht.Properties.C02Lex
import Ahbicht.Properties.C02Ahb
/-!
# C02 — parsers accept exactly the documented language; all else is a SyntaxError

The condition parser on token lists, and why the fall-back cannot rescue an AHB expression with a malformed condition part.
The scanners: C02Lex.lean, C02Ahb.lean.
-/
namespace Ahbicht.Properties.C02
open Ahbicht Generated

/-- **C02 (accepted condition expressions).** Exactly the token lists of the grammar `e ::= e OP e | e e | ( e ) | atom`. -/
theorem C02_cond_language (ts : List Tok) : (parseToks ts).isSome = true ↔ Lang ts := by
  rw [lang_iff_chains, Option.isSome_iff_exists]
  constructor
  · rintro ⟨e, he⟩
    obtain ⟨c, hc, _⟩ := parseToks_iff.1 he
    exact ⟨c, hc⟩
  · rintro ⟨c, hc⟩
    exact ⟨_, parseToks_iff.2 ⟨c, hc, rfl⟩⟩

/-! An accepted token list is not empty and does not begin with an operator, with `)` or with `()`: on these the
machine ends with an empty frame or has no step, so `parseToks` computes to `none` whatever follows. -/

theorem C02_no_empty : ¬ Lang [] := by
  rw [← C02_cond_language]; exact Bool.false_ne_true

theorem C02_no_leading_operator (o : Op3) (ts : List Tok) : ¬ Lang (.op o :: ts) := by
  rw [← C02_cond_language]; exact Bool.false_ne_true

theorem C02_no_unopened_bracket (ts : List Tok) : ¬ Lang (.rp :: ts) := by
  rw [← C02_cond_language]; exact Bool.false_ne_true

theorem C02_no_empty_brackets (ts : List Tok) : ¬ Lang (.lp :: .rp :: ts) := by
  rw [← C02_cond_language]; exact Bool.false_ne_true

/-- **C02 (characters).** The extracted classes are the documented ones: ASCII digits in keys and package numbers, Lark's `WS`, three
spellings per operator, the four brackets.  (A repeatability is matched with the engine's `\d`: DESIGN §3.3.) -/
theorem C02_classes_as_documented :
    cc_intDigit = [(48, 57)] ∧ cc_repFirstMax = [(49, 57)] ∧ cc_ws = [(9, 10), (12, 13), (32, 32)] ∧
    cc_opOr = [(79, 79), (111, 111), (8744, 8744)] ∧ cc_opXor = [(88, 88), (120, 120), (8891, 8891)] ∧
    cc_opAnd = [(85, 85), (117, 117), (8743, 8743)] ∧
    cc_lpar = [(40, 40)] ∧ cc_rpar = [(41, 41)] ∧ cc_lsqb = [(91, 91)] ∧ cc_rsqb = [(93, 93)] :=
  ⟨rfl, rfl, C01.C01_alphabet_as_documented⟩

/-- **C02 (totality of the model).** Parts, a tree or `SyntaxError`; that the implementation raises nothing else is left to the
outcome-class correspondence. -/
theorem C02_model_total (cs : List Char) :
    (∃ ps, resolveParse cs = .ahb ps) ∨ (∃ e, resolveParse cs = .cond e) ∨ resolveParse cs = .syntaxError := by
  cases h : resolveParse cs with
  | ahb ps => exact Or.inl ⟨ps, rfl⟩
  | cond e => exact Or.inr (Or.inl ⟨e, rfl⟩)
  | syntaxError => exact Or.inr (Or.inr rfl)

/-- a condition expression begins with whitespace, `[` or `(` -/
theorem parseCond_head {c : Char} {rest : List Char} {e : Expr} (h : parseCond (c :: rest) = some e) :
    isWs c = true ∨ isLsqb c = true ∨ isLpar c = true := by
  obtain ⟨ts, hl, hp⟩ := Option.bind_eq_some_iff.1 h
  have hlang := (C02_cond_language ts).1 (by rw [hp]; rfl)
  obtain ⟨s', t, ts0, hstep, -, hts⟩ := lexFrom_cons_some (lex_eq_some.1 hl)
  rcases C02Lex.step_out hstep with ⟨hw, -⟩ | ⟨hb, -⟩ | ⟨-, tok, rfl, hsp⟩
  · exact .inl hw
  · exact .inr (.inl hb)
  · -- a one-character token: it is the first token, so it is `(`
    cases hts
    generalize hcs : [c] = s at hsp
    cases hsp with
    | lp d hd => cases hcs; exact .inr (.inr hd)
    | rp => exact absurd hlang (C02_no_unopened_bracket _)
    | or_ | xor_ | and_ => exact absurd hlang (C02_no_leading_operator _ _)
    | atom => simp at hcs

/-- **C02.** An AHB-shaped string is never a condition expression: it begins with an indicator letter … -/
theorem C02_ahb_not_cond {cs : List Char} {ps : List Part} (h : scanAhb cs = some ps) : parseCond cs = none := by
  cases cs with
  | nil => simp [scanAhb] at h
  | cons c rest =>
    cases hp : parseCond (c :: rest) with
    | none => rfl
    | some e =>
      have hc := C02Ahb.C02_ahb_first_char c rest ps h
      have hd := parseCond_head hp
      -- the classes of either side appended to one range list: one `disj` fact
      simp only [isPrefixOp, isWs, isLsqb, isLpar, ← Bool.or_eq_true, ← inRanges_append] at hc hd
      rw [disj_sound (by decide +kernel) hc] at hd
      cases hd

/-- … hence a malformed condition part ends in `SyntaxError`: the fall-back to the condition parser cannot rescue it. -/
theorem C02_ahb_bad_cond {cs : List Char} {ps : List Part} (h : scanAhb cs = some ps)
    (hbad : ∃ p ∈ ps, ∃ c, p.cond = some c ∧ parseCond c = none) : resolveParse cs = .syntaxError := by
  obtain ⟨p, hp, c, hc, hnone⟩ := hbad
  unfold resolveParse
  simp only [h, C02_ahb_not_cond h]
  refine if_neg fun hall => ?_
  simpa [hc, hnone] using List.all_eq_true.1 hall _ (List.mem_map_of_mem hp)

/-- shape of `is_valid_expression` on such input: `(false, reason)` -/
def isValidSyntaxStage (cs : List Char) : Option (Bool × String) :=
  match resolveParse cs with
  | .syntaxError => some (false, "SyntaxError")
  | _ => none   -- evaluation stage decides (C06)

theorem C02_validity_check {cs : List Char} (h : resolveParse cs = .syntaxError) :
    isValidSyntaxStage cs = some (false, "SyntaxError") := by
  simp [isValidSyntaxStage, h]

/-! non-vacuity -/
example : scanAhb "Muss [1".toList = some [⟨.modal, "Muss".toList, some " [1".toList⟩] := by decide +kernel
example : resolveParse "Muss [1".toList = .syntaxError :=
  C02_ahb_bad_cond (ps := [⟨.modal, "Muss".toList, some " [1".toList⟩]) (by decide +kernel)
    ⟨_, List.mem_cons_self, " [1".toList, rfl, by decide +kernel⟩
example : Lang [.atom (.cond ['1']), .op .and_, .lp, .atom (.cond ['2']), .atom (.cond ['3']), .rp] :=
  (C02_cond_language _).1 (by decide +kernel)

end Ahbicht.Properties.C02
