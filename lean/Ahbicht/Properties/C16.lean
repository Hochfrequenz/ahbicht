import Ahbicht.Lemmas.Val
/-!
# C16 — an invalid expression makes one node optional and never aborts validation

The run is compared with the run on the AHB with `Kann` for every invalid expression (`kannify…`), up to `mask`.
-/
namespace Ahbicht.Properties.C16
open Ahbicht

/-- the result of evaluating the expression `Kann` -/
def kannRes : NodeRes := .ok ⟨.KANN, some true, none, true, none⟩

def kannify : NodeRes → NodeRes
  | .invalid _ => kannRes
  | x => x

def kannifyEntry (e : PoolEntry) : PoolEntry := { e with res := kannify e.res }

def kannifyDE : DataElement → DataElement
  | .free d res i v => .free d (kannify res) i v
  | .pool d es i => .pool d (es.map kannifyEntry) i

def kannifySeg (s : Segment) : Segment := { s with res := kannify s.res, des := s.des.map kannifyDE }

mutual
def kannifyGroup : Group → Group
  | .mk d res gs ss => .mk d (kannify res) (kannifyGroups gs) (ss.map kannifySeg)
def kannifyGroups : Groups → Groups
  | .nil => .nil
  | .cons g gs => .cons (kannifyGroup g) (kannifyGroups gs)
end

def isInvalid : NodeRes → Bool
  | .invalid _ => true
  | _ => false

def invalidDE : DataElement → List String
  | .free d res _ _ => if isInvalid res then [d] else []
  | .pool _ _ _ => []

def invalidSeg (s : Segment) : List String := (if isInvalid s.res then [s.disc] else []) ++ s.des.flatMap invalidDE

mutual
/-- discriminators of the nodes that carry an invalid expression (pool entries apart) -/
def invalidGroup : Group → List String
  | .mk d res gs ss => (if isInvalid res then [d] else []) ++ invalidGroups gs ++ ss.flatMap invalidSeg
def invalidGroups : Groups → List String
  | .nil => []
  | .cons g gs => invalidGroup g ++ invalidGroups gs
end

/-- blank out what is reported for the nodes in `S`; discriminator and kind remain -/
def mask (S : List String) (o : Out) : Out :=
  if S.contains o.disc then ⟨o.disc, o.isDataElement, .IS_OPTIONAL, none, none, none, none, none⟩ else o

theorem ok_bind {ε α β} (a : α) (f : α → Except ε β) : (Except.ok a >>= f) = f a := rfl
theorem error_bind {ε α β} (e : ε) (f : α → Except ε β) : ((Except.error e : Except ε α) >>= f) = .error e := rfl
theorem map_ok {ε α β} (a : α) (f : α → β) : (Except.ok a : Except ε α).map f = .ok (f a) := rfl
theorem map_error {ε α β} (e : ε) (f : α → β) : (Except.error e : Except ε α).map f = .error e := rfl
theorem pure_eq_ok {ε α} (a : α) : (pure a : Except ε α) = .ok a := rfl

theorem nodeStatus_kann {p : Option RVV} (soll : Bool) (hp : okParent p = true) (hf : p ≠ some .IS_FORBIDDEN) (h : Option String)
    (f : Bool) (m : Option String) : nodeStatus ⟨.KANN, some true, h, f, m⟩ p soll = .ok .IS_OPTIONAL := by
  have h1 : mapSpec (some true) .KANN soll = .val .IS_OPTIONAL := by cases soll <;> rfl
  have h2 : combineSpec p .IS_OPTIONAL = .val .IS_OPTIONAL := by
    revert p
    decide
  exact nodeStatus_ok.2 ⟨_, h1, h2⟩

theorem segLevel_kann (p : Option RVV) (soll : Bool) (hp : okParent p = true) (hf : p ≠ some .IS_FORBIDDEN) :
    segLevel kannRes p soll = .ok (.IS_OPTIONAL, none) := by
  rw [kannRes, segLevel_ok _ p soll hf, nodeStatus_kann soll hp hf]; rfl

/-- **C16 (the node itself).** Reported optional with the reason as hint; a free-text element likewise. -/
theorem C16_node_segment_level (msg : String) (p : Option RVV) (soll : Bool) (hp : p ≠ some .IS_FORBIDDEN) :
    segLevel (.invalid msg) p soll = .ok (.IS_OPTIONAL, some msg) :=
  segLevel_invalid msg p soll hp

theorem C16_node_freetext (d msg : String) (input vtype : Option String) (st : RVV) (soll : Bool) :
    ∃ o, validateDataElement (.free d (.invalid msg) input vtype) st soll = .ok o ∧ o.status = .IS_OPTIONAL ∧ o.hints = some msg :=
  ⟨_, rfl, rfl, rfl⟩

/-- `Kann` yields `IS_OPTIONAL` too; what relates the two runs is `C16_others` -/
theorem C16_same_as_kann (p : Option RVV) (soll : Bool) (hp : okParent p = true) (hf : p ≠ some .IS_FORBIDDEN) :
    ∃ hh, segLevel kannRes p soll = .ok (.IS_OPTIONAL, hh) :=
  ⟨none, segLevel_kann p soll hp hf⟩

/-- `hd`: the head of `invalidSeg` / `invalidGroup`, as `List.forall_mem_append` delivers it -/
theorem segLevel_kannify (S : List String) {d : String} (res : NodeRes) {p : Option RVV} (soll : Bool) (hp : okParent p = true)
    (hd : ∀ x ∈ (if isInvalid res then [d] else []), S.contains x = true) :
    (segLevel res p soll).map (fun x => (x.1, mask S (segOut d x.1 x.2))) =
      (segLevel (kannify res) p soll).map fun x => (x.1, mask S (segOut d x.1 x.2)) := by
  cases res with
  | ok r => rfl
  | invalid msg =>
    by_cases hf : p = some .IS_FORBIDDEN
    · subst hf; rfl
    · rw [segLevel_invalid msg p soll hf, kannify, segLevel_kann p soll hp hf]
      simp only [map_ok, mask, segOut, hd d List.mem_cons_self, if_true]

theorem entryOffered_kannify (e : PoolEntry) : entryOffered (kannifyEntry e) = entryOffered e := by
  obtain ⟨q, m, res⟩ := e
  cases res <;> rfl

/-- **C16 (pool entries).** An invalid value-pool entry is offered exactly as if its expression were `Kann`. -/
theorem C16_pool (es : List PoolEntry) (st : RVV) : offered (es.map kannifyEntry) st = offered es st := by
  unfold offered
  split
  · rfl
  · match es with
    | [] => rfl
    | [e] => rfl
    | e :: e' :: es =>
      show List.foldl _ [] (List.filter entryOffered (List.map kannifyEntry (e :: e' :: es))) = _
      rw [List.filter_map, funext entryOffered_kannify (f := entryOffered ∘ kannifyEntry), List.foldl_map]
      rfl

theorem de_mask (S : List String) (de : DataElement) (st : RVV) (soll : Bool) (hst : st.isBase = true)
    (hf : st ≠ .IS_FORBIDDEN) (hS : ∀ x ∈ invalidDE de, S.contains x = true) :
    (validateDataElement de st soll).map (mask S) = (validateDataElement (kannifyDE de) st soll).map (mask S) := by
  cases de with
  | pool d es i =>
    simp only [kannifyDE, validateDataElement, C16_pool]
  | free d res i v =>
    cases res with
    | ok r => rfl
    | invalid msg =>
      obtain ⟨w, hw, _⟩ := (suffix_base .IS_OPTIONAL (truthyStr i) rfl).exists_ok
      rw [kannifyDE, kannify, kannRes, validateDE_free, nodeStatus_kann (p := some st) soll hst (fun h => hf (Option.some.inj h)), ok_bind, hw]
      simp only [validateDataElement, map_ok, mask, hS d List.mem_cons_self, if_true]

theorem seg_mask (S : List String) (s : Segment) (p : Option RVV) (soll : Bool) (hp : okParent p = true)
    (hS : ∀ x ∈ invalidSeg s, S.contains x = true) :
    (validateSegment s p soll).map (List.map (mask S)) =
      (validateSegment (kannifySeg s) p soll).map (List.map (mask S)) := by
  obtain ⟨hd, hdes⟩ := List.forall_mem_append.1 hS
  rw [validateSegment_eq, validateSegment_eq]
  refine walkNode_congr_map (mask S) (P := (·.isBase = true)) ((segLevel_sat s.res soll hp).imp fun _ h => h.1)
    (segLevel_kannify S s.res soll hp hd) fun st hb hf => ?_
  exact mapM_congr_map kannifyDE (mask S) fun de hde => de_mask S de st soll hb hf (List.forall_mem_flatMap.1 hdes de hde)

mutual
theorem group_mask (S : List String) : ∀ (g : Group) (p : Option RVV) (soll : Bool), okParent p = true →
    (∀ x ∈ invalidGroup g, S.contains x = true) →
    (validateGroup g p soll).map (List.map (mask S)) =
      (validateGroup (kannifyGroup g) p soll).map (List.map (mask S))
  | .mk d res gs ss, p, soll, hp, hS => by
    obtain ⟨hS, hss⟩ := List.forall_mem_append.1 hS
    obtain ⟨hd, hgs⟩ := List.forall_mem_append.1 hS
    rw [kannifyGroup, validateGroup_eq, validateGroup_eq]
    refine walkNode_congr_map (mask S) (P := (·.isBase = true)) ((segLevel_sat res soll hp).imp fun _ h => h.1)
      (segLevel_kannify S res soll hp hd) fun st hb hf => ?_
    refine bind_congr_map (List.map (mask S)) _ (groups_mask S gs (some st) soll hb hgs) fun a b hab => ?_
    refine map_congr_map (List.map (List.map (mask S))) _ (mapM_congr_map kannifySeg _ fun s hs =>
      seg_mask S s (some st) soll hb (List.forall_mem_flatMap.1 hss s hs)) fun a' b' hab' => ?_
    rw [List.map_append, List.map_append, List.map_flatten, List.map_flatten, hab, hab']
theorem groups_mask (S : List String) : ∀ (gs : Groups) (p : Option RVV) (soll : Bool), okParent p = true →
    (∀ x ∈ invalidGroups gs, S.contains x = true) →
    (validateGroups gs p soll).map (List.map (mask S)) =
      (validateGroups (kannifyGroups gs) p soll).map (List.map (mask S))
  | .nil, p, soll, hp, hS => rfl
  | .cons g gs, p, soll, hp, hS => by
    obtain ⟨hg, hgs⟩ := List.forall_mem_append.1 hS
    rw [kannifyGroups, validateGroups_cons, validateGroups_cons]
    refine bind_congr_map (List.map (mask S)) _ (group_mask S g p soll hp hg) fun a b hab => ?_
    refine map_congr_map (List.map (mask S)) _ (groups_mask S gs p soll hp hgs) fun a' b' hab' => ?_
    rw [List.map_append, List.map_append, hab, hab']
end

/-- **C16 (every other node).** With any number of invalid expressions at once, all other nodes are reported as with `Kann` in their
place, and one run aborts iff the other does.  `mask` goes by discriminator: "other" presupposes pairwise different ones. -/
theorem C16_others (lines : Groups) (soll : Bool) :
    (validateAhb lines soll).map (List.map (mask (invalidGroups lines))) =
      (validateAhb (kannifyGroups lines) soll).map (List.map (mask (invalidGroups lines))) := by
  unfold validateAhb
  exact groups_mask (invalidGroups lines) lines none soll rfl fun _ => List.contains_iff_mem.2

end Ahbicht.Properties.C16
