import Ahbicht.Lemmas.Tasks
/-!
# C15 — each data element's format constraints see only that element's own input

A program gives every task its operations `set v | spawn child | get`; `spawn` copies the spawner's context (PEP 567).  The program of
a validation run is recorded from the implementation (vf/props/c15.py); the driver decides `CWF` and `WellScoped` on it.
-/
namespace Ahbicht.Properties.C15
open Ahbicht

/-- **C15 (schedule freedom).** What a task reads is `expected`, whatever the interleaving; same statement as `ctx_schedule_independent`
(Lemmas/Tasks.lean). -/
theorem C15_schedule_free (P : Tid → List COp) (parent : Tid → Option (Tid × Nat)) (wf : CWF P parent) (sched : List Tid) :
    ∀ e ∈ (crun P cinit sched).out, e.2.2 = expected P parent e.1 e.2.1 :=
  ctx_schedule_independent P parent wf sched

/-- every `get` of a task is expected to return the input of the element that task works for -/
def WellScoped (P : Tid → List COp) (parent : Tid → Option (Tid × Nat)) (inputOf : Tid → Option Nat) : Prop :=
  ∀ t i, (P t)[i]? = some .get → expected P parent t i = inputOf t

/-- **C15, combined.** Format-constraint evaluators of data elements validated concurrently each read their own element's input,
whatever the interleaving. -/
theorem C15 (P : Tid → List COp) (parent : Tid → Option (Tid × Nat)) (inputOf : Tid → Option Nat)
    (wf : CWF P parent) (ws : WellScoped P parent inputOf) (sched : List Tid) :
    ∀ e ∈ (crun P cinit sched).out, e.2.2 = inputOf e.1 := by
  intro e he
  obtain ⟨hg, hv⟩ := (CtxInv.run wf sched cinit (.init P parent wf)).out e he
  rw [hv]
  exact ws e.1 e.2.1 hg

/-- **C15 (isolation).** The same, said of the `get`s only. -/
theorem C15_isolation (P : Tid → List COp) (parent : Tid → Option (Tid × Nat)) (inputOf : Tid → Option Nat)
    (wf : CWF P parent) (ws : WellScoped P parent inputOf) (sched : List Tid) :
    ∀ e ∈ (crun P cinit sched).out, (P e.1)[e.2.1]? = some .get → e.2.2 = inputOf e.1 :=
  fun e he _ => C15 P parent inputOf wf ws sched e he

/-! non-vacuity: the shape of `validate_segment`: task 0 spawns a task per data element, which sets its input and spawns an evaluator
that reads it -/
section
private def P : Tid → List COp
  | 0 => [.spawn 1, .spawn 2]
  | 1 => [.set 11, .spawn 3]
  | 2 => [.set 22, .spawn 4]
  | 3 => [.get]
  | 4 => [.get]
  | _ => []
example : (crun P cinit [0, 0, 2, 1, 2, 4, 1, 3]).out = [(3, 0, some 11), (4, 0, some 22)] := by decide +kernel
example : (crun P cinit [0, 1, 1, 3, 0, 2, 2, 4]).out = [(4, 0, some 22), (3, 0, some 11)] := by decide +kernel
end

end Ahbicht.Properties.C15
