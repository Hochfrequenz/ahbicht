import Ahbicht.Lemmas.Rc
import Ahbicht.Properties.C01Every
import Ahbicht.Lemmas.Flat
/-!
# C05 (brackets), partial — outside the class of finding K1, re-grouping inside runs of one operator changes neither validity nor outcome

Redundant brackets only change the grouping inside runs of one operator (C01).  Excluding every O- or X-run that holds both a bare
hint and a bare format constraint is sufficient, not necessary.
-/
namespace Ahbicht.Properties.C05Brackets
open Ahbicht

def isBareHint : NExpr → Bool
  | .leaf (.cond k) => catOf k == some .hint
  | _ => false

def isBareFc : NExpr → Bool
  | .leaf (.cond k) => catOf k == some .fc
  | _ => false

mutual
/-- no O- or X-run anywhere has both a bare hint and a bare format constraint among its operands -/
def noHintFcRun : NExpr → Bool
  | .leaf _ => true
  | .node op args =>
    (!(op == .or_ || op == .xor_) || !(args.any isBareHint && args.any isBareFc)) && noHintFcRunL args
def noHintFcRunL : List NExpr → Bool
  | [] => true
  | a :: as => noHintFcRun a && noHintFcRunL as
end


/-- `denote` node by node: on the documented domain an attached format constraint is an `and` with NEUTRAL -/
def cop : Op → CFV → CFV → CFV
  | .or_ => CFV.or
  | .xor_ => CFV.xor
  | _ => CFV.and

theorem cop_assoc (o : Op) : ∀ x y z : CFV, cop o (cop o x y) z = cop o x (cop o y z) := by
  cases o
  · exact CFV.or_assoc
  · exact CFV.xor_assoc
  · exact CFV.and_assoc
  · exact CFV.and_assoc

theorem denote_fcLeaf (env : List Char → Option CFV) {t : Expr} (h : t.isFcLeaf = true) : denote env t = .N := by
  obtain ⟨k, rfl, hk⟩ := isFcLeaf_iff.1 h
  simp [denote, hk]

theorem denote_bin (env : List Char → Option CFV) {o : Op} {l r : Expr} (h : WF (.bin o l r) = true) :
    denote env (.bin o l r) = cop o (denote env l) (denote env r) := by
  cases o with
  | then_ =>
    simp only [denote, cop]
    rcases WF_then h with ⟨hl, _⟩ | ⟨hl, hr, _⟩
    · rw [hl, denote_fcLeaf env hl, if_pos rfl, CFV.N_and]
    · rw [hl, denote_fcLeaf env hr, CFV.and_N]; rfl
  | _ => rfl

/-- the pair (invalid, neutral-only) node by node, outside the excluded class -/
def vop (o : Op) (a b : Bool × Bool) : Bool × Bool :=
  (a.1 || b.1 || ((o == .or_ || o == .xor_) && a.2 != b.2), a.2 && b.2)

theorem vop_assoc (o : Op) : ∀ x y z : Bool × Bool, vop o (vop o x y) z = vop o x (vop o y z) := by
  rintro ⟨i, m⟩ ⟨j, n⟩ ⟨k, p⟩
  simp only [vop]
  -- with the test on `o` a variable, a fact about seven Booleans
  generalize (o == Op.or_ || o == Op.xor_) = ox
  revert ox i m j n k p
  decide +kernel

theorem noHintFcRunL_append (xs ys : List NExpr) : noHintFcRunL (xs ++ ys) = (noHintFcRunL xs && noHintFcRunL ys) := by
  induction xs with
  | nil => simp [noHintFcRunL]
  | cons x xs ih => simp [noHintFcRunL, ih, Bool.and_assoc]

theorem run_append {o : Op} {xs ys : List NExpr} (h : noHintFcRun (.node o (xs ++ ys)) = true) :
    noHintFcRun (.node o xs) = true ∧ noHintFcRun (.node o ys) = true := by
  simp only [noHintFcRun, noHintFcRunL_append, List.any_append] at h ⊢
  -- a Boolean consequence: fewer operands, fewer bare keys
  revert h
  generalize (o == Op.or_ || o == Op.xor_) = ox
  generalize xs.any isBareHint = xh
  generalize xs.any isBareFc = xf
  generalize ys.any isBareHint = yh
  generalize ys.any isBareFc = yf
  generalize noHintFcRunL xs = lx
  generalize noHintFcRunL ys = ly
  revert ox xh xf yh yf lx ly
  decide +kernel

theorem run_argsFor {o : Op} {n : NExpr} (h : noHintFcRun (.node o (n.argsFor o)) = true) : noHintFcRun n = true := by
  cases n with
  | leaf a => simp [noHintFcRun]
  | node o' as =>
    simp only [NExpr.argsFor] at h
    split at h
    · next e => subst e; exact h
    · simp only [noHintFcRun, noHintFcRunL, Bool.and_eq_true] at h ⊢; exact h.2.1

theorem run_operands {o : Op} {l r : Expr} (h : noHintFcRun (Expr.bin o l r).flat = true) :
    noHintFcRun l.flat = true ∧ noHintFcRun r.flat = true :=
  ⟨run_argsFor (run_append h).1, run_argsFor (run_append h).2⟩

theorem bare_argsFor (o : Op) (t : Expr) :
    (t.isHintLeaf = true → (t.flat.argsFor o).any isBareHint = true) ∧
    (t.isFcLeaf = true → (t.flat.argsFor o).any isBareFc = true) := by
  cases t with
  | leaf a => cases a <;> simp [Expr.isHintLeaf, Expr.isFcLeaf, Expr.flat, NExpr.argsFor, isBareHint, isBareFc]
  | bin o' l r => simp [Expr.isHintLeaf, Expr.isFcLeaf]

theorem validity_bin {o : Op} {l r : Expr} (h : noHintFcRun (Expr.bin o l r).flat = true) :
    (invalidAt (.bin o l r), neutralOnly (.bin o l r)) = vop o (invalidAt l, neutralOnly l) (invalidAt r, neutralOnly r) := by
  simp only [invalidAt, neutralOnly, vop]
  cases hox : (o == Op.or_ || o == Op.xor_) with
  | false => simp
  | true =>
    -- K1's class is excluded: a bare hint and a bare format constraint never meet in this run
    have hpair : (l.isHintLeaf && r.isFcLeaf || l.isFcLeaf && r.isHintLeaf) = false := by
      have hp : ((l.flat.argsFor o ++ r.flat.argsFor o).any isBareHint &&
          (l.flat.argsFor o ++ r.flat.argsFor o).any isBareFc) = false := by
        simp only [Expr.flat, noHintFcRun, hox, Bool.not_true, Bool.false_or, Bool.and_eq_true, Bool.not_eq_true'] at h
        exact h.1
      rw [List.any_append, List.any_append] at hp
      apply Bool.eq_false_iff.2
      intro hc
      simp only [Bool.or_eq_true, Bool.and_eq_true] at hc
      rcases hc with ⟨a, b⟩ | ⟨a, b⟩
      · rw [(bare_argsFor o l).1 a, (bare_argsFor o r).2 b] at hp; simp at hp
      · rw [(bare_argsFor o l).2 a, (bare_argsFor o r).1 b] at hp; simp at hp
    rw [Bool.or_assoc (neutralOnly l != neutralOnly r), hpair]
    simp

theorem C05_brackets_partial (t t' : Expr) (hwf : WF t = true) (hwf' : WF t' = true) (hflat : t.flat = t'.flat)
    (hk : noHintFcRun t.flat = true) :
    invalidAt t = invalidAt t' ∧ ∀ env, denote env t = denote env t' :=
  ⟨congrArg Prod.fst (flat_congr_on vop_assoc (fun t => (invalidAt t, neutralOnly t)) (fun t => noHintFcRun t.flat = true)
      run_operands validity_bin hk (hflat ▸ hk) hflat),
   fun env => flat_congr_on cop_assoc (denote env) (fun t => WF t = true) WF_bin (denote_bin env) hwf hwf' hflat⟩

/-- string level: any two writings of one tree, as long as both parses stay in the documented domain -/
theorem C05_brackets_written {p q : Nat} {e : Expr} {ts₁ ts₂ : List Tok} (h₁ : C01.Written p e ts₁) (h₂ : C01.Written q e ts₂)
    (e₁ e₂ : Expr) (hp₁ : parseToks ts₁ = some e₁) (hp₂ : parseToks ts₂ = some e₂)
    (hwf₁ : WF e₁ = true) (hwf₂ : WF e₂ = true) (hk : noHintFcRun e.flat = true) :
    invalidAt e₁ = invalidAt e₂ ∧ ∀ env, denote env e₁ = denote env e₂ := by
  have f₁ := C01Every.C01_result_is_documented_reading _ _ _ _ hp₁ h₁
  have f₂ := C01Every.C01_result_is_documented_reading _ _ _ _ hp₂ h₂
  exact C05_brackets_partial e₁ e₂ hwf₁ hwf₂ (f₁.trans f₂.symm) (f₁ ▸ hk)

/-- the witness of finding K1 (`C05_brackets_K1`) lies in the excluded class -/
theorem K1_is_excluded :
    noHintFcRun (Expr.bin .or_ (.leaf (.cond "501".toList)) (.bin .or_ (.leaf (.cond "901".toList))
      (.bin .and_ (.leaf (.cond "502".toList)) (.leaf (.cond "503".toList))))).flat = false := by
  decide +kernel

end Ahbicht.Properties.C05Brackets

