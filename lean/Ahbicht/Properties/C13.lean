import Ahbicht.Lemmas.Val
/-!
# C13 — validation covers the AHB tree once, in order; parents dominate children

Order and completeness concern the shape of the result list (`Cov`, one induction), pruning one node (`walkNode_sat`); dominance and
the abort concern every single result and failure (two `NodeSat` instances for `validateGroups_sat`).
-/
namespace Ahbicht.Properties.C13
open Ahbicht

def discDE : DataElement → String
  | .free d _ _ _ => d
  | .pool d _ _ => d

def discsSeg (s : Segment) : List String := s.disc :: s.des.map discDE

mutual
/-- a group, then its sub-groups, then its segments each followed by its data elements -/
def discsGroup : Group → List String
  | .mk d _ gs ss => d :: (discsGroups gs ++ ss.flatMap discsSeg)
def discsGroups : Groups → List String
  | .nil => []
  | .cons g gs => discsGroup g ++ discsGroups gs
end

def RVV.isRequiredFamily : RVV → Bool
  | .IS_REQUIRED | .IS_REQUIRED_AND_EMPTY | .IS_REQUIRED_AND_FILLED => true
  | _ => false

theorem validatePool_sat (d : String) (entries : List PoolEntry) (input : Option String) (st : RVV) (soll : Bool) :
    Sat (validateDataElement (.pool d entries input) st soll) (fun o => o.disc = d ∧ o.dtype = some "VALUE_POOL") fun _ => False := by
  simp only [validateDataElement]
  exact .ite (fun _ => ⟨rfl, rfl⟩) fun _ => .ite (fun _ => ⟨rfl, rfl⟩) fun _ => .ite (fun _ => ⟨rfl, rfl⟩) fun _ => ⟨rfl, rfl⟩

theorem validateDE_disc (de : DataElement) (st : RVV) (soll : Bool) :
    Sat (validateDataElement de st soll) (·.disc = discDE de) fun _ => True := by
  cases de with
  | pool d entries input => exact (validatePool_sat d entries input st soll).mono (fun _ h => h.1) nofun
  | free d res input vtype =>
    cases res with
    | invalid msg => exact rfl
    | ok r =>
      rw [validateDE_free]
      -- whatever the statuses, the result is built with `d`
      exact (Sat.triv.imp fun b _ => (Sat.triv.imp fun _ _ => rfl).map).bind

theorem suffix_not_required : ∀ (b : RVV) (f : Bool), b.isBase = true →
    Sat (liftT (withSuffix b f)) (fun st => b ≠ .IS_REQUIRED → RVV.isRequiredFamily st = false) fun _ => False := by decide +kernel

theorem validateDE_sat (de : DataElement) {st : RVV} (soll : Bool) (hb : st.isBase = true) (hf : st ≠ .IS_FORBIDDEN) :
    Sat (validateDataElement de st soll)
      (fun o => st = .IS_OPTIONAL → o.dtype ≠ some "VALUE_POOL" → RVV.isRequiredFamily o.status = false) (· = .notImplemented) := by
  cases de with
  | pool d entries input => exact (validatePool_sat d entries input st soll).mono (fun _ h _ hp => absurd h.2 hp) nofun
  | free d res input vtype =>
    cases res with
    | invalid msg => exact fun _ _ => rfl
    | ok r =>
      rw [validateDE_free]
      refine ((nodeStatus_sat r soll (p := some st) hb (fun h => hf (Option.some.inj h))).imp fun b hb => ?_).bind
      exact ((suffix_not_required b _ hb.1).mono (fun _ h ho _ => h (hb.2 (congrArg some ho))) nofun).map

/-- a sub-sequence of the document order, and all of it when no segment-level node is forbidden -/
def Cov (outs : List Out) (doc : List String) : Prop :=
  (outs.map (·.disc)).Sublist doc ∧
    ((∀ o ∈ outs, o.isDataElement = false → o.status ≠ .IS_FORBIDDEN) → outs.map (·.disc) = doc)

theorem Cov_nil : Cov [] [] := ⟨List.Sublist.refl _, fun _ => rfl⟩

theorem Cov_append {a b : List Out} {da db : List String} (ha : Cov a da) (hb : Cov b db) : Cov (a ++ b) (da ++ db) := by
  rw [Cov, List.map_append, List.forall_mem_append]
  exact ⟨ha.1.append hb.1, fun h => by rw [ha.2 h.1, hb.2 h.2]⟩

theorem Cov_cons {a : List Out} {da : List String} (o : Out) (ha : Cov a da) : Cov (o :: a) (o.disc :: da) :=
  Cov_append (a := [o]) (da := [o.disc]) ⟨.refl _, fun _ => rfl⟩ ha

theorem Cov_forbidden (d : String) (hh : Option String) (doc : List String) :
    Cov [segOut d .IS_FORBIDDEN hh] (d :: doc) := by
  refine ⟨?_, ?_⟩
  · exact List.Sublist.cons_cons _ (List.nil_sublist _)
  · intro h
    exact absurd rfl (h _ List.mem_cons_self rfl)

theorem Cov_node {lvl : Except VErr (RVV × Option String)} {d : String} {kids : RVV → Except VErr (List Out)} {doc : List String}
    (hk : ∀ st, Sat (kids st) (Cov · doc) fun _ => True) : Sat (walkNode lvl d kids) (Cov · (d :: doc)) fun _ => True :=
  walkNode_sat Sat.triv (fun h _ => Cov_forbidden d h doc) fun st h _ _ => (hk st).imp fun _ => Cov_cons (segOut d st h)

theorem Cov_segment (s : Segment) (p : Option RVV) (soll : Bool) :
    Sat (validateSegment s p soll) (Cov · (discsSeg s)) fun _ => True := by
  rw [validateSegment_eq]
  refine Cov_node fun st => Sat.mapM (R := fun des outs => Cov outs (des.map discDE)) Cov_nil ?_ fun de _ => validateDE_disc de st soll
  intro de des o _ (ho : o.disc = discDE de) h
  rw [List.map_cons, ← ho]
  exact Cov_cons o h

mutual
theorem Cov_group_sat : ∀ (g : Group) (p : Option RVV) (soll : Bool), Sat (validateGroup g p soll) (Cov · (discsGroup g)) fun _ => True
  | .mk d res gs ss, p, soll => by
    rw [validateGroup_eq, discsGroup]
    refine Cov_node fun st => ((Cov_groups_sat gs (some st) soll).imp fun a ha => ?_).bind
    exact ((Sat.mapM (R := fun ss b => Cov b.flatten (ss.flatMap discsSeg)) Cov_nil (fun _ _ _ _ => Cov_append)
      fun s _ => Cov_segment s (some st) soll).imp fun _ => Cov_append ha).map
theorem Cov_groups_sat : ∀ (gs : Groups) (p : Option RVV) (soll : Bool), Sat (validateGroups gs p soll) (Cov · (discsGroups gs)) fun _ => True
  | .nil, _, _ => Cov_nil
  | .cons g rest, p, soll => by
    rw [validateGroups_cons, discsGroups]
    exact ((Cov_group_sat g p soll).imp fun a ha => ((Cov_groups_sat rest p soll).imp fun _ => Cov_append ha).map).bind
end

theorem Cov_group : ∀ (g : Group) (p : Option RVV) (soll : Bool) (outs : List Out),
    validateGroup g p soll = .ok outs → Cov outs (discsGroup g) :=
  fun g p soll => (Cov_group_sat g p soll).ok

/-- **C13 (order, at most once).** With pairwise different discriminators: every reported node once, in document order. -/
theorem C13_order (gs : Groups) (p : Option RVV) (soll : Bool) (outs : List Out)
    (h : validateGroups gs p soll = .ok outs) : (outs.map (·.disc)).Sublist (discsGroups gs) :=
  ((Cov_groups_sat gs p soll).ok outs h).1

/-- **C13 (nothing missing).** If no segment-level node is reported forbidden, every node of the tree is reported. -/
theorem C13_complete (gs : Groups) (p : Option RVV) (soll : Bool) (outs : List Out)
    (h : validateGroups gs p soll = .ok outs)
    (hnf : ∀ o ∈ outs, o.isDataElement = false → o.status ≠ .IS_FORBIDDEN) : outs.map (·.disc) = discsGroups gs :=
  ((Cov_groups_sat gs p soll).ok outs h).2 hnf

/-- **C13 (pruning).** Nothing below a forbidden group or segment is reported. -/
theorem C13_pruned_group (d : String) (res : NodeRes) (gs : Groups) (ss : List Segment) (p : Option RVV) (soll : Bool)
    (outs : List Out) (h : validateGroup (.mk d res gs ss) p soll = .ok outs) :
    ∃ st hh, outs.head? = some (segOut d st hh) ∧ (st = .IS_FORBIDDEN → outs = [segOut d st hh]) := by
  revert outs
  rw [validateGroup_eq]
  exact Sat.ok <| walkNode_sat Sat.triv (fun hh _ => ⟨_, hh, rfl, fun _ => rfl⟩) fun st hh _ hst =>
    Sat.triv.imp fun _ _ => ⟨st, hh, rfl, (absurd · hst)⟩

theorem C13_pruned_segment (s : Segment) (p : Option RVV) (soll : Bool) (outs : List Out)
    (h : validateSegment s p soll = .ok outs) :
    ∃ st hh, outs.head? = some (segOut s.disc st hh) ∧ (st = .IS_FORBIDDEN → outs = [segOut s.disc st hh]) ∧
      (st ≠ .IS_FORBIDDEN → outs.length = s.des.length + 1) := by
  revert outs
  rw [validateSegment_eq]
  refine Sat.ok <| walkNode_sat Sat.triv (fun hh _ => ⟨_, hh, rfl, fun _ => rfl, (absurd rfl ·)⟩) fun st hh _ hst => ?_
  refine Sat.imp (Q := (·.length = s.des.length)) ?_ fun _ hb => ⟨st, hh, rfl, (absurd · hst), fun _ => congrArg (· + 1) hb⟩
  exact Sat.mapM (R := fun l bs => bs.length = l.length) (Eq.refl 0) (fun _ _ _ _ _ => congrArg (· + 1)) fun _ _ => Sat.triv

/-- **C13 (status).** Own status (documented mapping) combined with the parent's (documented table); for free text below, plus the
FILLED / EMPTY suffix matching the entered input. -/
theorem C13_status (r : EvalRes) (p : Option RVV) (soll : Bool) (hp : p ≠ some .IS_FORBIDDEN) (st : RVV) (hh : Option String)
    (h : segLevel (.ok r) p soll = .ok (st, hh)) :
    ∃ own, mapSpec r.fulfilled r.ind soll = .val own ∧ combineSpec p own = .val st ∧ hh = r.hints := by
  rw [segLevel_ok r p soll hp] at h
  cases hs : nodeStatus r p soll with
  | error e => rw [hs] at h; cases h
  | ok st' =>
    rw [hs] at h; cases h
    obtain ⟨own, h1, h2⟩ := nodeStatus_ok.1 hs
    exact ⟨own, h1, h2, rfl⟩

theorem C13_status_freetext (d : String) (r : EvalRes) (input vtype : Option String) (segSt : RVV) (soll : Bool) (o : Out)
    (h : validateDataElement (.free d (.ok r) input vtype) segSt soll = .ok o) :
    ∃ own base, mapSpec r.fulfilled r.ind soll = .val own ∧ combineSpec (some segSt) own = .val base ∧
      withSuffix base (truthyStr input) = .val o.status ∧ o.hints = r.hints ∧ o.fcOk = some r.fcOk ∧ o.fcMsg = r.fcMsg := by
  revert o
  rw [validateDE_free]
  refine Sat.ok <| Sat.bind <| Sat.of_ok fun base hs => Sat.map <| Sat.of_ok fun st' hw => ?_
  obtain ⟨own, h1, h2⟩ := nodeStatus_ok.1 hs
  exact ⟨own, base, h1, h2, liftT_ok.1 hw, rfl, rfl, rfl⟩

/-- **C13 (suffix).** The extracted suffix table on the three base statuses. -/
theorem C13_suffix :
    withSuffix .IS_REQUIRED true = .val .IS_REQUIRED_AND_FILLED ∧ withSuffix .IS_REQUIRED false = .val .IS_REQUIRED_AND_EMPTY ∧
    withSuffix .IS_OPTIONAL true = .val .IS_OPTIONAL_AND_FILLED ∧ withSuffix .IS_OPTIONAL false = .val .IS_OPTIONAL_AND_EMPTY ∧
    withSuffix .IS_FORBIDDEN true = .val .IS_FORBIDDEN_AND_FILLED ∧ withSuffix .IS_FORBIDDEN false = .val .IS_FORBIDDEN_AND_EMPTY := by
  decide +kernel

def NoReq (outs : List Out) : Prop :=
  ∀ o ∈ outs, o.dtype ≠ some "VALUE_POOL" → RVV.isRequiredFamily o.status = false

theorem nodeSat_optional (soll : Bool) : NodeSat soll (· = some .IS_OPTIONAL)
    (fun o => o.dtype ≠ some "VALUE_POOL" → RVV.isRequiredFamily o.status = false) fun _ => True where
  lvl d res p hp := by
    have hc : ∀ st : RVV, st.isBase = true → st ≠ .IS_REQUIRED →
        (st ≠ .IS_FORBIDDEN → some st = some .IS_OPTIONAL) ∧ RVV.isRequiredFamily st = false := by decide
    subst hp
    exact (segLevel_sat res soll rfl).mono (fun x hx => (hc x.1 hx.1 (hx.2 rfl)).imp_right fun h _ => h) fun _ _ => trivial
  de de st hst hf := by
    cases hst
    exact (validateDE_sat de soll rfl hf).mono (fun _ ho => ho rfl) fun _ _ => trivial

theorem NoReq_group : ∀ (g : Group) (soll : Bool) (outs : List Out),
    validateGroup g (some .IS_OPTIONAL) soll = .ok outs → NoReq outs :=
  fun g soll => (validateGroup_sat (nodeSat_optional soll) g rfl).ok

/-- **C13 (below an optional node nothing is reported required)**, at any depth; value pools apart (they are `IS_REQUIRED_AND_…`
once something is offered). -/
theorem C13_dominate_optional (gs : Groups) (soll : Bool) (outs : List Out)
    (h : validateGroups gs (some .IS_OPTIONAL) soll = .ok outs) :
    ∀ o ∈ outs, o.dtype ≠ some "VALUE_POOL" → RVV.isRequiredFamily o.status = false :=
  (validateGroups_sat (nodeSat_optional soll) gs rfl).ok outs h

/-- **C13 (below a required node the own status is kept).** -/
theorem C13_dominate_required (r : EvalRes) (soll : Bool) (st : RVV) (hh : Option String)
    (h : segLevel (.ok r) (some .IS_REQUIRED) soll = .ok (st, hh)) : mapSpec r.fulfilled r.ind soll = .val st := by
  obtain ⟨own, h1, h2, _⟩ := C13_status r _ soll (by decide) st hh h
  cases h2
  exact h1

theorem nodeSat_base (soll : Bool) : NodeSat soll (okParent · = true) (fun _ => True) (· = .notImplemented) where
  lvl _ res _ hp := (segLevel_sat res soll hp).imp fun _ hx => ⟨fun _ => hx.1, trivial⟩
  de de _ hb hf := (validateDE_sat de soll hb hf).imp fun _ _ => trivial

theorem validateGroup_err : ∀ (g : Group) (p : Option RVV) (soll : Bool) (e : VErr), okParent p = true →
    validateGroup g p soll = .error e → e = .notImplemented :=
  fun g _ soll e hp => (validateGroup_sat (nodeSat_base soll) g hp).error e

/-- **C13 (abort).** Validation fails only with the `NotImplementedError` of `map_requirement_validation_values`; which error, not when. -/
theorem C13_only_not_implemented (lines : Groups) (soll : Bool) (e : VErr) (h : validateAhb lines soll = .error e) :
    e = .notImplemented :=
  (validateGroups_sat (nodeSat_base soll) lines rfl).error e h

end Ahbicht.Properties.C13
