import Ahbicht.Model.Ahb
import Ahbicht.Lemmas.Chars
/-!
# C09 (splitting) — an AHB expression written as parts is split into exactly these parts, in written order
-/
namespace Ahbicht.Properties.C09Split
open Ahbicht Generated

/-- `M`/`Muss`, `S`/`Soll`, `K`/`Kann`, every letter in any case the regex engine folds to it -/
inductive SpellMark : List Char → Prop
  | m (c : Char) : inRanges cc_mm_up_M c = true → SpellMark [c]
  | muss (c u s₁ s₂ : Char) : inRanges cc_mm_up_M c = true → inRanges cc_mm_lo_u u = true → inRanges cc_mm_lo_s s₁ = true →
      inRanges cc_mm_lo_s s₂ = true → SpellMark [c, u, s₁, s₂]
  | s (c : Char) : inRanges cc_mm_up_S c = true → SpellMark [c]
  | soll (c o l₁ l₂ : Char) : inRanges cc_mm_up_S c = true → inRanges cc_mm_lo_o o = true → inRanges cc_mm_lo_l l₁ = true →
      inRanges cc_mm_lo_l l₂ = true → SpellMark [c, o, l₁, l₂]
  | k (c : Char) : inRanges cc_mm_up_K c = true → SpellMark [c]
  | kann (c a n₁ n₂ : Char) : inRanges cc_mm_up_K c = true → inRanges cc_mm_lo_a a = true → inRanges cc_mm_lo_n n₁ = true →
      inRanges cc_mm_lo_n n₂ = true → SpellMark [c, a, n₁, n₂]

/-- a condition text between indicators; it starts with whitespace, `[` or `(`: then neither the mark before it is read on into it
nor the look-ahead `(?!\BU\B)` fires -/
structure CondText (c : List Char) : Prop where
  nonempty : c ≠ []
  chars : ∀ ch ∈ c, isAhbCondChar ch = true
  start : ∀ ch, c.head? = some ch → (isWs ch = true ∨ isLsqb ch = true ∨ isLpar ch = true)

def written (parts : List (List Char × List Char)) (last : Option (List Char)) : List Char :=
  parts.flatMap (fun p => p.1 ++ p.2) ++ last.getD []

def expectedParts (parts : List (List Char × List Char)) (last : Option (List Char)) : List Part :=
  parts.map (fun p => (⟨.modal, p.1, some p.2⟩ : Part)) ++ (match last with | some l => [(⟨.modal, l, none⟩ : Part)] | none => [])


def MarkStart (ch : Char) : Prop :=
  inRanges cc_mm_up_M ch = true ∨ inRanges cc_mm_up_S ch = true ∨ inRanges cc_mm_up_K ch = true

theorem markStart_not_prefix {ch : Char} (h : MarkStart ch) : isPrefixOp ch = false := by
  rcases h with h | h | h <;> exact disj_sound (by decide) h

theorem markStart_not_cond {ch : Char} (h : MarkStart ch) : isAhbCondChar ch = false := by
  rcases h with h | h | h <;> exact disj_sound (by decide +kernel) h

/-- `modalMark` tries `M`, then `S`, then `K` -/
theorem up_S_not {c : Char} (h : inRanges cc_mm_up_S c = true) : inRanges cc_mm_up_M c = false :=
  disj_sound (by decide) h

theorem up_K_not {c : Char} (h : inRanges cc_mm_up_K c = true) :
    inRanges cc_mm_up_M c = false ∧ inRanges cc_mm_up_S c = false :=
  ⟨disj_sound (by decide) h, disj_sound (by decide) h⟩

theorem spellMark_start {m : List Char} (hm : SpellMark m) : ∃ ch tl, m = ch :: tl ∧ MarkStart ch := by
  cases hm with
  | m c hc => exact ⟨c, _, rfl, Or.inl hc⟩
  | muss c u s1 s2 hc _ _ _ => exact ⟨c, _, rfl, Or.inl hc⟩
  | s c hc => exact ⟨c, _, rfl, Or.inr (Or.inl hc)⟩
  | soll c u s1 s2 hc _ _ _ => exact ⟨c, _, rfl, Or.inr (Or.inl hc)⟩
  | k c hc => exact ⟨c, _, rfl, Or.inr (Or.inr hc)⟩
  | kann c u s1 s2 hc _ _ _ => exact ⟨c, _, rfl, Or.inr (Or.inr hc)⟩

theorem condStart_facts {ch : Char} (h : isWs ch = true ∨ isLsqb ch = true ∨ isLpar ch = true) :
    inRanges cc_mm_lo_u ch = false ∧ inRanges cc_mm_lo_o ch = false ∧ inRanges cc_mm_lo_a ch = false ∧
      isFoldU ch = false := by
  rcases h with h | h | h <;>
    exact ⟨disj_sound (by decide) h, disj_sound (by decide) h, disj_sound (by decide) h, disj_sound (by decide) h⟩

theorem matches3_false {a b c : List (Nat × Nat)} {rest : List Char}
    (h : ∀ ch, rest.head? = some ch → inRanges a ch = false) : matches3 a b c rest = false := by
  fun_cases matches3 a b c rest
  · simp [h _ rfl]
  · rfl

theorem modalMark_spell {m : List Char} (hm : SpellMark m) (rest : List Char)
    (hr : ∀ ch, rest.head? = some ch → isWs ch = true ∨ isLsqb ch = true ∨ isLpar ch = true) :
    modalMark (m ++ rest) = some (m, rest) := by
  have hr' := fun ch h => condStart_facts (hr ch h)
  cases hm with
  | m c hc => simp [modalMark, hc, matches3_false fun ch h => (hr' ch h).1]
  | muss c u s1 s2 hc hu h1 h2 => simp [modalMark, matches3, hc, hu, h1, h2]
  | s c hc => simp [modalMark, hc, up_S_not hc, matches3_false fun ch h => (hr' ch h).2.1]
  | soll c u s1 s2 hc hu h1 h2 => simp [modalMark, matches3, hc, up_S_not hc, hu, h1, h2]
  | k c hc => simp [modalMark, hc, up_K_not hc, matches3_false fun ch h => (hr' ch h).2.2.1]
  | kann c u s1 s2 hc hu h1 h2 => simp [modalMark, matches3, hc, up_K_not hc, hu, h1, h2]

theorem takeWhile_app (p : Char → Bool) (cond rest : List Char) (hc : ∀ ch ∈ cond, p ch = true)
    (hr : ∀ ch, rest.head? = some ch → p ch = false) :
    (cond ++ rest).takeWhile p = cond ∧ (cond ++ rest).dropWhile p = rest := by
  rw [List.takeWhile_append_of_pos hc, List.dropWhile_append_of_pos hc]
  cases rest with
  | nil => simp
  | cons x t => simp [hr x rfl]

theorem condExpr_condText {cond : List Char} (hcond : CondText cond) (rest : List Char)
    (hr : ∀ ch, rest.head? = some ch → isAhbCondChar ch = false) :
    condExpr (cond ++ rest) = some (cond, rest) := by
  obtain ⟨h1, h2⟩ := takeWhile_app isAhbCondChar cond rest hcond.chars hr
  obtain ⟨x, t, rfl⟩ := List.exists_cons_of_ne_nil hcond.nonempty
  have hx := (condStart_facts (hcond.start x rfl)).2.2.2
  unfold condExpr
  rw [h1, h2]
  simp only [List.cons_append]
  generalize t ++ rest = w
  cases w <;> simp [hx]

theorem written_cons (p : List Char × List Char) (ps : List (List Char × List Char)) (last : Option (List Char)) :
    written (p :: ps) last = p.1 ++ (p.2 ++ written ps last) := by
  simp [written, List.append_assoc]

theorem scanModal_bare {m : List Char} (hm : SpellMark m) (fuel : Nat) :
    scanModal (fuel + 1) m = some [⟨.modal, m, none⟩] := by
  have := modalMark_spell hm [] (by simp)
  simp only [List.append_nil] at this
  simp [scanModal, this]

/-- the mark is not read on into the text, and the text ends at the next mark -/
theorem scanModal_part {m c rest : List Char} (hm : SpellMark m) (hc : CondText c)
    (hrest : ∀ ch, rest.head? = some ch → MarkStart ch) (fuel : Nat) :
    scanModal (fuel + 1) (m ++ (c ++ rest)) =
      if rest.isEmpty then some [⟨.modal, m, some c⟩] else (scanModal fuel rest).map (⟨.modal, m, some c⟩ :: ·) := by
  have hce := condExpr_condText hc rest (fun ch h => markStart_not_cond (hrest ch h))
  obtain ⟨x, t, rfl⟩ := List.exists_cons_of_ne_nil hc.nonempty
  have hmm := modalMark_spell hm (x :: t ++ rest) (fun ch h => hc.start ch (by simpa using h))
  simp only [List.cons_append] at hmm hce
  simp [scanModal, hmm, hce]

/-- with the first character of the input, which `scanAhb` tests before it calls `scanModal` -/
theorem scanModal_written (parts : List (List Char × List Char)) (last : Option (List Char)) (fuel : Nat)
    (hfuel : (written parts last).length ≤ fuel)
    (hne : parts ≠ [] ∨ last.isSome = true)
    (hparts : ∀ p ∈ parts, SpellMark p.1 ∧ CondText p.2) (hlast : ∀ l, last = some l → SpellMark l) :
    scanModal (fuel + 1) (written parts last) = some (expectedParts parts last) ∧
      ∃ ch tl, written parts last = ch :: tl ∧ MarkStart ch := by
  induction parts generalizing fuel with
  | nil =>
    cases last with
    | none => simp at hne
    | some l =>
      obtain ⟨ch, tl, rfl, hch⟩ := spellMark_start (hlast l rfl)
      exact ⟨by simpa [written, expectedParts] using scanModal_bare (hlast _ rfl) fuel, ch, tl, by simp [written], hch⟩
  | cons p ps ih =>
    obtain ⟨⟨hm, hc⟩, hps⟩ := List.forall_mem_cons.1 hparts
    obtain ⟨ch, tl, hp1, hch⟩ := spellMark_start hm
    refine ⟨?_, ch, tl ++ (p.2 ++ written ps last), by rw [written_cons, hp1]; rfl, hch⟩
    rw [written_cons] at hfuel ⊢
    rcases (show (ps = [] ∧ last = none) ∨ (ps ≠ [] ∨ last.isSome = true) by cases ps <;> cases last <;> simp)
      with ⟨rfl, rfl⟩ | hne'
    · rw [scanModal_part hm hc (by simp [written])]
      simp [written, expectedParts]
    · -- the mark is not empty, so one unit of fuel less is enough for the rest
      simp only [hp1, List.length_append, List.length_cons] at hfuel
      cases fuel with
      | zero => omega
      | succ f =>
        obtain ⟨hih, ch', tl', hw, hch'⟩ := ih f (by omega) hne' hps
        rw [hw] at hih
        rw [hw, scanModal_part hm hc (by simpa using hch'), hih]
        simp [expectedParts]

theorem expected_dropLast_all (parts : List (List Char × List Char)) (last : Option (List Char)) :
    ((expectedParts parts last).dropLast.all fun p => p.cond.isSome) = true := by
  cases last with
  | none =>
    simp only [expectedParts, List.append_nil, List.all_eq_true]
    intro q hq
    obtain ⟨p, _, rfl⟩ := List.mem_map.1 (List.dropLast_subset _ hq)
    rfl
  | some l => simp [expectedParts]

/-- **C09 (split, modal marks).** Modal-mark parts (any spelling and letter case, each condition text a `CondText`), optionally ending
in a bare mark, are split into exactly these parts in written order. -/
theorem C09_split_modal (parts : List (List Char × List Char)) (last : Option (List Char))
    (hne : parts ≠ [] ∨ last.isSome = true)
    (hparts : ∀ p ∈ parts, SpellMark p.1 ∧ CondText p.2) (hlast : ∀ l, last = some l → SpellMark l) :
    scanAhb (written parts last) = some (expectedParts parts last) := by
  obtain ⟨hsm, ch, tl, hw, hch⟩ := scanModal_written parts last _ (Nat.le_refl _) hne hparts hlast
  rw [hw] at hsm ⊢
  simp only [List.length_cons] at hsm
  simp [scanAhb, markStart_not_prefix hch, hsm, expected_dropLast_all parts last]

/-- **C09 (split, prefix operator).** `X`/`O`/`U` in either case followed by a condition text, or alone. -/
theorem C09_split_prefix (c : Char) (hc : isPrefixOp c = true) (cond : List Char) (hcond : CondText cond) :
    scanAhb (c :: cond) = some [⟨.prefix_, [c], some cond⟩] ∧ scanAhb [c] = some [⟨.prefix_, [c], none⟩] := by
  have hce := condExpr_condText hcond [] (by simp)
  simp only [List.append_nil] at hce
  have hpe : cond.isEmpty = false := by
    simpa using hcond.nonempty
  constructor
  · simp [scanAhb, hc, hpe, hce]
  · simp [scanAhb, hc]

/-- thirteen sample spellings (long and short form, mixed case) -/
theorem C09_spellings :
    SpellMark "Muss".toList ∧ SpellMark "muss".toList ∧ SpellMark "MUSS".toList ∧ SpellMark "M".toList ∧ SpellMark "m".toList ∧
    SpellMark "Soll".toList ∧ SpellMark "sOLL".toList ∧ SpellMark "S".toList ∧ SpellMark "s".toList ∧
    SpellMark "Kann".toList ∧ SpellMark "kaNN".toList ∧ SpellMark "K".toList ∧ SpellMark "k".toList := by
  -- the character lists first: unifying `"Muss".toList` with `[c, u, s₁, s₂]` by unfolding is dear
  simp only [String.reduceToList]
  exact ⟨.muss 'M' 'u' 's' 's' (by decide) (by decide) (by decide) (by decide),
    .muss 'm' 'u' 's' 's' (by decide) (by decide) (by decide) (by decide),
    .muss 'M' 'U' 'S' 'S' (by decide) (by decide) (by decide) (by decide),
    .m 'M' (by decide), .m 'm' (by decide),
    .soll 'S' 'o' 'l' 'l' (by decide) (by decide) (by decide) (by decide),
    .soll 's' 'O' 'L' 'L' (by decide) (by decide) (by decide) (by decide),
    .s 'S' (by decide), .s 's' (by decide),
    .kann 'K' 'a' 'n' 'n' (by decide) (by decide) (by decide) (by decide),
    .kann 'k' 'a' 'N' 'N' (by decide) (by decide) (by decide) (by decide),
    .k 'K' (by decide), .k 'k' (by decide)⟩

end Ahbicht.Properties.C09Split

