import Ahbicht.Model.Iso
import Ahbicht.Properties.C20
/-!
# C20 at the level of the written string: "every way of writing it as an ISO-8601 datetime with UTC offset (or Z)"

About `parse_as_datetime` as `Model/Iso.lean` models it on the extended ISO-8601 family; strings outside the family are not judged here.
-/
namespace Ahbicht.Properties.C20
open Ahbicht Generated

theorem digitVal_ofNat : ∀ k, k < 10 → digitVal (Char.ofNat (48 + k)) = some k := by decide

theorem digitVal_digitChar (n : Nat) : digitVal (digitChar n) = some (n % 10) := by
  unfold digitChar
  exact digitVal_ofNat _ (Nat.mod_lt _ (by decide))

theorem num2_digitChar (a b : Nat) : num2 (digitChar a) (digitChar b) = some (10 * (a % 10) + b % 10) := by
  simp [num2, digitVal_digitChar]

theorem num2_show (n : Nat) (h : n < 100) : num2 (digitChar (n / 10)) (digitChar n) = some n := by
  rw [num2_digitChar, Nat.mod_eq_of_lt (Nat.div_lt_of_lt_mul (k := 10) h), Nat.div_add_mod]

theorem num4_show (n : Nat) (h : n < 10000) :
    num4 (digitChar (n / 100 / 10)) (digitChar (n / 100)) (digitChar (n % 100 / 10)) (digitChar (n % 100)) = some n := by
  have h1 : n / 100 < 100 := Nat.div_lt_of_lt_mul h
  simp only [num4, num2_show _ h1, num2_show _ (Nat.mod_lt n (by decide)), Nat.div_add_mod]

theorem digitVal_le (c : Char) (x : Nat) (h : digitVal c = some x) : x ≤ 9 := by
  simp only [digitVal, Option.ite_none_right_eq_some, Option.some.injEq] at h
  omega

theorem num2_le (a b : Char) (x : Nat) (h : num2 a b = some x) : x ≤ 99 := by
  unfold num2 at h
  split at h
  · rename_i p q hp hq
    injection h with h
    have := digitVal_le _ _ hp
    have := digitVal_le _ _ hq
    omega
  · cases h

theorem num4_le (a b c d : Char) (x : Nat) (h : num4 a b c d = some x) : x ≤ 9999 := by
  unfold num4 at h
  split at h
  · rename_i p q hp hq
    injection h with h
    have := num2_le _ _ _ hp
    have := num2_le _ _ _ hq
    omega
  · cases h

theorem int_beq_decide (a b : Int) : (a == b) = decide (a = b) := Bool.beq_eq_decide_eq a b

theorem daysInMonth_le (y m : Nat) : daysInMonth y m ≤ 31 := by
  unfold daysInMonth
  split
  · split <;> decide
  · split <;> decide

theorem offsetTotal_bound (sg : Char) (h m s : Nat) (o : Int) (hh : offsetTotal sg h m s = some (some o)) : o.natAbs < 86400 := by
  unfold offsetTotal at hh
  simp only [Int.ofNat_eq_natCast] at hh
  split at hh
  · simp only [Option.some.injEq, Option.ite_none_right_eq_some] at hh
    rw [← hh.2, Int.natAbs_natCast]; exact hh.1
  · split at hh
    · simp only [Option.some.injEq, Option.ite_none_right_eq_some] at hh
      rw [← hh.2, Int.natAbs_neg, Int.natAbs_natCast]; exact hh.1
    · cases hh

theorem parseOffset_bound (r : List Char) (o : Int) (h : parseOffset r = some (some o)) : o.natAbs < 86400 := by
  unfold parseOffset at h
  split at h
  · cases h; decide
  · split at h
    · exact offsetTotal_bound _ _ _ _ _ h
    · cases h
  · split at h
    · exact offsetTotal_bound _ _ _ _ _ h
    · cases h
  · cases h

theorem offsetTotal_sign (off : Int) (h m s : Nat) (ht : h * 3600 + m * 60 + s = off.natAbs) (hb : off.natAbs < 86400) :
    offsetTotal (if off < 0 then '-' else '+') h m s = some (some off) := by
  simp only [offsetTotal, ht, hb, if_true]
  by_cases hneg : off < 0 <;> simp [hneg] <;> omega

theorem hms_spec (a : Nat) (h : a < 86400) :
    a / 3600 < 100 ∧ a % 3600 / 60 < 100 ∧ a % 60 < 100 ∧ a / 3600 * 3600 + a % 3600 / 60 * 60 + a % 60 = a := by
  omega

theorem parseOffset_show (st : OffStyle) (off : Int) (h1 : -86400 < off) (h2 : off < 86400)
    (hst : styleFits st off = true) : parseOffset (showOffset st off) = some (some off) := by
  have hb : off.natAbs < 86400 := by omega
  obtain ⟨hh, hm, hs, ht⟩ := hms_spec _ hb
  cases st
  · simp [styleFits] at hst; subst hst; rfl
  · simp only [styleFits, beq_iff_eq] at hst
    simp only [showOffset, show2, List.cons_append, List.nil_append, parseOffset]
    rw [num2_show _ hh, num2_show _ hm]
    exact offsetTotal_sign off _ _ 0 (hst ▸ ht) hb
  · simp only [showOffset, show2, List.cons_append, List.nil_append, parseOffset]
    rw [num2_show _ hh, num2_show _ hm, num2_show _ hs]
    exact offsetTotal_sign off _ _ _ ht hb
  · simp [styleFits] at hst; subst hst; decide

/-- **C20 (reading back).** A valid datetime in any notation of the family (separator other than `Z`, an offset style that fits) is read
back with exactly its fields and offset. -/
theorem C20_iso_roundtrip (w : Written) (sep : Char) (st : OffStyle)
    (hw : w.valid = true) (hst : styleFits st w.off = true) (hsep : sep ≠ 'Z') :
    parseIsoChars (renderIso sep st w) = .ok w := by
  obtain ⟨y, m, d, hh, mm, ss, off⟩ := w
  simp only [Written.valid, Bool.and_eq_true, decide_eq_true_eq] at hw
  obtain ⟨⟨⟨⟨⟨⟨⟨⟨⟨hy0, hy1⟩, hm0⟩, hd0⟩, hh0⟩, hmm0⟩, hss0⟩, hfv⟩, ho1⟩, ho2⟩ := hw
  have hfv' := hfv
  simp only [fieldsValid, Bool.and_eq_true, decide_eq_true_eq] at hfv'
  have hdim : daysInMonth y.toNat m.toNat ≤ 31 := daysInMonth_le _ _
  simp only [renderIso, show4, show2, List.cons_append, List.nil_append, parseIsoChars]
  rw [if_pos ⟨trivial, trivial, trivial, trivial, hsep⟩]
  rw [num4_show _ (by omega), num2_show _ (by omega), num2_show _ (by omega), num2_show _ (by omega),
    num2_show _ (by omega), num2_show _ (by omega), parseOffset_show st off ho1 ho2 hst]
  simp only [assemble, hfv, if_true]
  simp only [Int.ofNat_eq_natCast, Int.toNat_of_nonneg hy0, Int.toNat_of_nonneg hm0, Int.toNat_of_nonneg hd0,
    Int.toNat_of_nonneg hh0, Int.toNat_of_nonneg hmm0, Int.toNat_of_nonneg hss0]

/-- **C20 (what is read is in range).** A string with an out-of-range field is never read as some other datetime. -/
theorem C20_iso_sound (cs : List Char) (w : Written) (h : parseIsoChars cs = .ok w) : w.valid = true := by
  unfold parseIsoChars at h
  split at h
  · split at h
    · unfold assemble at h
      split at h
      · split at h
        · split at h
          · rename_i y mo d hh mi s hy _ _ _ _ _ hfv _ o ho
            cases h
            have hy' := num4_le _ _ _ _ _ hy
            have hb := parseOffset_bound _ _ ho
            simp only [Written.valid, Int.ofNat_eq_natCast, Int.toNat_natCast, hfv, Bool.and_eq_true, decide_eq_true_eq, and_true]
            omega
          · cases h
        · cases h
      · cases h
    · cases h
  · cases h

/-- **C20 (string level).** Two strings of the family that denote one instant get one verdict for 932 … 935. -/
theorem C20_iso_notation (cs₁ cs₂ : List Char) (w₁ w₂ : Written)
    (h₁ : parseIsoChars cs₁ = .ok w₁) (h₂ : parseIsoChars cs₂ = .ok w₂) (h : instant w₁ = instant w₂) :
    judgeStrom cs₁ = judgeStrom cs₂ ∧ judgeGas cs₁ = judgeGas cs₂ := by
  have hn := C20_notation w₁ w₂ h
  simp only [judgeStrom, judgeGas, judgeWith, h₁, h₂, hn.1, hn.2, and_self]

/-- **C20 (every way of writing).** Two valid writings of one instant get the verdict of that instant in German local time.  The model's
verdict, for years 1 … 9999; the code is compared with it on 1902 … 9998 only (DESIGN §13.2 (b)). -/
theorem C20_iso_every_writing (w₁ w₂ : Written) (sep₁ sep₂ : Char) (st₁ st₂ : OffStyle)
    (hw₁ : w₁.valid = true) (hw₂ : w₂.valid = true) (hst₁ : styleFits st₁ w₁.off = true) (hst₂ : styleFits st₂ w₂.off = true)
    (hsep₁ : sep₁ ≠ 'Z') (hsep₂ : sep₂ ≠ 'Z') (h : instant w₁ = instant w₂) :
    judgeStrom (renderIso sep₁ st₁ w₁) = judgeStrom (renderIso sep₂ st₂ w₂) ∧
    judgeGas (renderIso sep₁ st₁ w₁) = judgeGas (renderIso sep₂ st₂ w₂) ∧
    judgeStrom (renderIso sep₁ st₁ w₁) = some ⟨decide (localTod (instant w₁) = 0), !decide (localTod (instant w₁) = 0)⟩ ∧
    judgeGas (renderIso sep₁ st₁ w₁) = some ⟨decide (localTod (instant w₁) = 21600), !decide (localTod (instant w₁) = 21600)⟩ := by
  have h₁ := C20_iso_roundtrip w₁ sep₁ st₁ hw₁ hst₁ hsep₁
  have h₂ := C20_iso_roundtrip w₂ sep₂ st₂ hw₂ hst₂ hsep₂
  have hn := C20_iso_notation _ _ w₁ w₂ h₁ h₂ h
  refine ⟨hn.1, hn.2, ?_, ?_⟩
  · simp only [judgeStrom, judgeWith, h₁, isStromtagLimit, int_beq_decide]
  · simp only [judgeGas, judgeWith, h₁, isGastagLimit, int_beq_decide]

/-- **C20 (931 at string level).** Fulfilled exactly if the written offset is zero, with a message otherwise; same span of years as
above. -/
theorem C20_iso_931 (cs : List Char) (w : Written) (h : parseIsoChars cs = .ok w) :
    judge931 cs = some ⟨decide (w.off = 0), !decide (w.off = 0)⟩ := by
  simp only [judge931, judgeWith, h, hasNoUtcOffset, int_beq_decide]

/-- of the writings `renderIso` produces (its four offset styles) exactly those of offset 0 are fulfilled -/
theorem C20_iso_931_written (w : Written) (sep : Char) (st : OffStyle)
    (hw : w.valid = true) (hst : styleFits st w.off = true) (hsep : sep ≠ 'Z') :
    (judge931 (renderIso sep st w) = some ⟨true, false⟩ ↔ w.off = 0) := by
  rw [C20_iso_931 _ w (C20_iso_roundtrip w sep st hw hst hsep)]
  simp

/-- **C20 (out-of-range field).** Unfulfilled with a message, for all five constraints. -/
theorem C20_iso_invalid (cs : List Char) (h : parseIsoChars cs = .invalid) :
    judgeStrom cs = some ⟨false, true⟩ ∧ judgeGas cs = some ⟨false, true⟩ ∧ judge931 cs = some ⟨false, true⟩ := by
  simp only [judgeStrom, judgeGas, judge931, judgeWith, h, and_self]

/-- **C20.** A message accompanies every unfulfilled verdict and no fulfilled one. -/
theorem C20_iso_message (f : Written → Bool) (cs : List Char) (v : Verdict) (h : judgeWith f cs = some v) :
    v.hasMessage = !v.fulfilled := by
  unfold judgeWith at h
  split at h
  · cases h; rfl
  · cases h; rfl
  · cases h

/-- the quirk of the offset fields: only their total is checked (`+01:75` = `+02:15`), 24 h is too much -/
theorem C20_iso_offset_total :
    parseIsoChars "2022-01-01T00:00:00+01:75".toList = .ok ⟨2022, 1, 1, 0, 0, 0, 8100⟩ ∧
    parseIsoChars "2022-01-01T00:00:00+24:00".toList = .invalid ∧
    parseIsoChars "2022-01-01T00:00:00-23:59:59".toList = .ok ⟨2022, 1, 1, 0, 0, 0, -86399⟩ := by
  decide +kernel

/-! non-vacuity: the switch day of March 2022 written in four ways, one instant, fulfilled; the round trip's hypotheses are met -/
example : (⟨2022, 3, 27, 0, 0, 0, 3600⟩ : Written).valid = true ∧ styleFits .short (3600 : Int) = true := by decide
example : judgeStrom "2022-03-26T23:00:00Z".toList = some ⟨true, false⟩ ∧
    judgeStrom "2022-03-27 00:00:00+01:00".toList = some ⟨true, false⟩ ∧
    judgeStrom "2022-03-26T18:00:00-05:00:00".toList = some ⟨true, false⟩ ∧
    judgeStrom "2022-03-27T01:00:00+02:00".toList = some ⟨true, false⟩ ∧
    judgeGas "2022-03-27T06:00:00+02:00".toList = some ⟨true, false⟩ ∧
    judgeGas "2022-03-27T06:00:00+01:00".toList = some ⟨false, true⟩ := by decide +kernel

end Ahbicht.Properties.C20
