import Ahbicht.Lemmas.Parse
import Ahbicht.Lemmas.Spell
/-!
# C01 — condition expressions are grouped by the documented operator precedence

`Written p e ts`: the stratified grammar of the documentation.  Brackets bind tightest (level 4), then juxtaposition (3), AND (2),
XOR (1), OR (0); the operands of an operator of level `p` are written at level `p`, so both groupings of a run of one operator are
admitted — the freedom C01 leaves; `paren` re-enters level 0.
-/
namespace Ahbicht.Properties.C01
open Ahbicht

def sepToks : Op → List Tok
  | .or_ => [.op .or_] | .xor_ => [.op .xor_] | .and_ => [.op .and_] | .then_ => []

inductive Written : Nat → Expr → List Tok → Prop
  | atom (a : Atom) : Written 4 (.leaf a) [.atom a]
  | paren {e ts} : Written 0 e ts → Written 4 e (.lp :: ts ++ [.rp])
  | bin {l r tl tr} (o : Op) : Written o.prec l tl → Written o.prec r tr →
      Written o.prec (.bin o l r) (tl ++ sepToks o ++ tr)
  | weaken {p q e ts} : q ≤ p → Written p e ts → Written q e ts

theorem written_atoms {p : Nat} {e : Expr} {ts : List Tok} (h : Written p e ts) : ∀ a ∈ e.atoms, Tok.atom a ∈ ts := by
  induction h with
  | atom a => simp [Expr.atoms]
  | paren _ ih => intro a ha; simp [ih a ha]
  | bin o _ _ ihl ihr =>
    intro a ha
    rcases List.mem_append.1 ha with ha | ha
    · simp [ihl a ha]
    · simp [ihr a ha]
  | weaken _ _ ih => exact ih

theorem chains_sep {cl cr : Chain} {l r : List Tok} (o : Op) (hl : Chains cl l) (hr : Chains cr r) :
    Chains (join cl o cr) (l ++ sepToks o ++ r) := by
  cases o with
  | or_ => simpa [sepToks, Op3.toOp] using Chains.binop .or_ hl hr
  | xor_ => simpa [sepToks, Op3.toOp] using Chains.binop .xor_ hl hr
  | and_ => simpa [sepToks, Op3.toOp] using Chains.binop .and_ hl hr
  | then_ => simpa [sepToks] using Chains.juxt hl hr

theorem written_chains {p : Nat} {e : Expr} {ts : List Tok} (h : Written p e ts) :
    ∃ c, Chains c ts ∧ (build c).flat = e.flat ∧ tightP p c := by
  induction h with
  | atom a => exact ⟨_, .atom a, by rw [build_item], fun _ hs => nomatch hs⟩
  | paren _ ih =>
    obtain ⟨c, hc, hflat, _⟩ := ih
    exact ⟨_, .paren hc, by rw [build_item, hflat], fun _ hs => nomatch hs⟩
  | bin o _ _ ihl ihr =>
    obtain ⟨cl, hcl, hfl, htl⟩ := ihl
    obtain ⟨cr, hcr, hfr, htr⟩ := ihr
    exact ⟨_, chains_sep o hcl hcr, by rw [build_join htl htr, hfl, hfr]; rfl, tightP_join htl htr (Nat.le_refl _)⟩
  | weaken hqp _ ih =>
    obtain ⟨c, hc, hflat, ht⟩ := ih
    exact ⟨c, hc, hflat, fun s hs => Nat.le_trans hqp (ht s hs)⟩

/-- **C01 (grouping).** Every way of writing `e` with the documented precedence parses to `e`,
up to the grouping inside runs of one operator. -/
theorem C01_precedence {p : Nat} {e : Expr} {ts : List Tok} (h : Written p e ts) :
    ∃ e', parseToks ts = some e' ∧ e'.flat = e.flat := by
  obtain ⟨c, hc, hflat, _⟩ := written_chains h
  exact ⟨build c, parseToks_iff.2 ⟨c, hc, rfl⟩, hflat⟩

/-- **C01 (redundant brackets).** A pair of brackets around a written expression does not change the parse up to `flat`; the
bracketed form is again a writing (`Written.paren`), so this iterates. -/
theorem C01_redundant_brackets {p : Nat} {e : Expr} {ts : List Tok} (h : Written p e ts) :
    ∃ e₁ e₂, parseToks ts = some e₁ ∧ parseToks (.lp :: ts ++ [.rp]) = some e₂ ∧ e₁.flat = e₂.flat := by
  obtain ⟨e₁, h₁, f₁⟩ := C01_precedence h
  obtain ⟨e₂, h₂, f₂⟩ := C01_precedence (Written.paren (Written.weaken (Nat.zero_le _) h))
  exact ⟨e₁, e₂, h₁, h₂, by rw [f₁, f₂]⟩

/-- **C01 (uniqueness).** The written form determines the tree up to the grouping of runs. -/
theorem C01_unambiguous {p q : Nat} {e₁ e₂ : Expr} {ts : List Tok}
    (h₁ : Written p e₁ ts) (h₂ : Written q e₂ ts) : e₁.flat = e₂.flat := by
  obtain ⟨a, ha, fa⟩ := C01_precedence h₁
  obtain ⟨b, hb, fb⟩ := C01_precedence h₂
  rw [ha] at hb
  cases hb
  rw [← fa, ← fb]


/-- **C01 (spelling and whitespace).** Whichever character of its class spells an operator, and whatever whitespace stands around
the tokens and inside `[ ]`, the scanner delivers the same tokens. -/
theorem C01_spelling_ws {ts : List Tok} {cs : List Char} (h : Spelt ts cs) : lex cs = some ts :=
  lex_eq_some.2 (lex_spelt h)

/-- **C01, string level.** `C01_precedence` for any spelling of the tokens. -/
theorem C01_string {p : Nat} {e : Expr} {ts : List Tok} {cs : List Char}
    (hs : Spelt ts cs) (hw : Written p e ts) : ∃ e', parseCond cs = some e' ∧ e'.flat = e.flat := by
  obtain ⟨e', he', hf⟩ := C01_precedence hw
  exact ⟨e', by simp [parseCond, C01_spelling_ws hs, he'], hf⟩

/-- **C01 (spelling).** Two spellings of the same tokens are parsed to the very same tree. -/
theorem C01_spelling_irrelevant {ts : List Tok} {cs₁ cs₂ : List Char} (h₁ : Spelt ts cs₁) (h₂ : Spelt ts cs₂) :
    parseCond cs₁ = parseCond cs₂ := by
  simp [parseCond, C01_spelling_ws h₁, C01_spelling_ws h₂]

theorem C01_six_spellings :
    isOpAnd 'U' = true ∧ isOpAnd 'u' = true ∧ isOpAnd '∧' = true ∧
    isOpOr 'O' = true ∧ isOpOr 'o' = true ∧ isOpOr '∨' = true ∧
    isOpXor 'X' = true ∧ isOpXor 'x' = true ∧ isOpXor '⊻' = true ∧
    isLpar '(' = true ∧ isRpar ')' = true ∧ isLsqb '[' = true ∧ isRsqb ']' = true ∧
    isWs ' ' = true ∧ isWs '\t' = true ∧ isWs '\n' = true := by decide +kernel

/-- **C01 (alphabet).** The classes extracted from the regex engine are exactly the documented ones: the five characters of Lark's
`WS`, `U u ∧`, `O o ∨`, `X x ⊻`, the four brackets. -/
theorem C01_alphabet_as_documented :
    Generated.cc_ws = [(9, 10), (12, 13), (32, 32)] ∧
    Generated.cc_opOr = [(79, 79), (111, 111), (8744, 8744)] ∧ Generated.cc_opXor = [(88, 88), (120, 120), (8891, 8891)] ∧
    Generated.cc_opAnd = [(85, 85), (117, 117), (8743, 8743)] ∧
    Generated.cc_lpar = [(40, 40)] ∧ Generated.cc_rpar = [(41, 41)] ∧ Generated.cc_lsqb = [(91, 91)] ∧ Generated.cc_rsqb = [(93, 93)] :=
  ⟨rfl, rfl, rfl, rfl, rfl, rfl, rfl, rfl⟩

/-! non-vacuity of the spelling theorem -/
example : parseCond " [ 12 ]u(  [3P 0..1]\t)".toList =
    some (.bin .and_ (.leaf (.cond "12".toList)) (.leaf (.pkg "3P".toList (some "0..1".toList)))) := by decide +kernel

/-! non-vacuity: `[1] O [2] U [3] [901]` is a writing of `1 O (2 U (3 then 901))` -/
section
private def k (n : String) : Atom := .cond n.toList
example : Written 0
    (.bin .or_ (.leaf (k "1")) (.bin .and_ (.leaf (k "2")) (.bin .then_ (.leaf (k "3")) (.leaf (k "901")))))
    [.atom (k "1"), .op .or_, .atom (k "2"), .op .and_, .atom (k "3"), .atom (k "901")] := by
  have a1 := Written.atom (k "1")
  have a2 := Written.atom (k "2")
  have a3 := Written.atom (k "3")
  have a4 := Written.atom (k "901")
  have t := Written.bin .then_ (Written.weaken (by decide : 3 ≤ 4) a3) (Written.weaken (by decide : 3 ≤ 4) a4)
  have u := Written.bin .and_ (Written.weaken (by decide : 2 ≤ 4) a2) (Written.weaken (by decide : 2 ≤ 3) t)
  have o := Written.bin .or_ (Written.weaken (by decide : 0 ≤ 4) a1) (Written.weaken (by decide : 0 ≤ 2) u)
  exact o
end

end Ahbicht.Properties.C01
