import Ahbicht.Properties.C01
import Ahbicht.Properties.C07
import Ahbicht.Properties.C08
/-!
# C07 (string level) — the collected format-constraint expression, as the string that is handed on, is a well-formed condition
expression whose parse is the collected AST (modulo the grouping inside runs of one operator)
-/
namespace Ahbicht.Properties.C07Str
open Ahbicht

/-- the tree a collected expression stands for (brackets are not part of it) -/
def toExpr : FExpr → Expr
  | .key k => .leaf (.cond k)
  | .paren x => toExpr x
  | .bin o l r => .bin o.toOp (toExpr l) (toExpr r)

/-- shape produced by `FormatConstraintExpressionBuilder`: the operands of every operator are single keys or bracketed -/
inductive Grouped : FExpr → Prop
  | key (k : List Char) : Grouped (.key k)
  | paren {x : FExpr} : Grouped x → Grouped (.paren x)
  | bin (o : BOp) {l r : FExpr} : Grouped l → Grouped r → (∀ o' a b, l ≠ .bin o' a b) → (∀ o' a b, r ≠ .bin o' a b) → Grouped (.bin o l r)

/-- keys are non-empty strings of ASCII digits (as delivered by the parser) -/
def KeysOk : FExpr → Prop
  | .key k => k ≠ [] ∧ ∀ c ∈ k, isIntDigit c = true
  | .paren x => KeysOk x
  | .bin _ l r => KeysOk l ∧ KeysOk r

theorem keysOk_iff (f : FExpr) : KeysOk f ↔ ∀ k ∈ C07.fkeys f, k ≠ [] ∧ ∀ c ∈ k, isIntDigit c = true := by
  induction f with
  | key k => rw [C07.fkeys, List.forall_mem_singleton]; rfl
  | paren x ih => exact ih
  | bin o l r ihl ihr => rw [C07.fkeys, List.forall_mem_append, ← ihl, ← ihr]; rfl

def letterC : BOp → Char | .and_ => 'U' | .or_ => 'O' | .xor_ => 'X'
def toOp3 : BOp → Op3 | .and_ => .and_ | .or_ => .or_ | .xor_ => .xor_

def renderL : FExpr → List Char
  | .key k => '[' :: (k ++ [']'])
  | .paren x => '(' :: (renderL x ++ [')'])
  | .bin o l r => renderL l ++ ' ' :: letterC o :: ' ' :: renderL r

def toks : FExpr → List Tok
  | .key k => [.atom (.cond k)]
  | .paren x => .lp :: (toks x ++ [.rp])
  | .bin o l r => toks l ++ .op (toOp3 o) :: toks r

theorem letter_toList (o : BOp) : o.letter.toList = [letterC o] := by
  cases o <;> decide

theorem render_toList (f : FExpr) : f.render.toList = renderL f := by
  induction f with
  | key k => simp [FExpr.render, renderL]
  | paren x ih => simp [FExpr.render, renderL, ih]
  | bin o l r ihl ihr => simp [FExpr.render, renderL, ihl, ihr, letter_toList]

theorem allWs_blank : AllWs [' '] := all_one (by decide)

theorem spellOp (o : BOp) : SpellTok (.op (toOp3 o)) [letterC o] := by
  cases o
  · exact .and_ 'U' (by decide)
  · exact .or_ 'O' (by decide)
  · exact .xor_ 'X' (by decide)

theorem spelt_render (f : FExpr) (hk : KeysOk f) : Spelt (toks f) (renderL f) := by
  induction f with
  | key k =>
    have hb : SpellAtom (.cond k) ([] ++ k ++ []) := .cond k [] [] hk.1 hk.2 allWs_nil allWs_nil
    simpa [toks, renderL] using spelt_one (.atom '[' ']' _ _ (by decide) (by decide) hb)
  | paren x ih =>
    exact spelt_append (spelt_one (.lp '(' (by decide))) (spelt_append (ih hk) (spelt_one (.rp ')' (by decide))))
  | bin o l r ihl ihr =>
    exact spelt_append (ihl hk.1) (spelt_append (.nil _ allWs_blank)
      (spelt_append (spelt_one (spellOp o)) (spelt_append (.nil _ allWs_blank) (ihr hk.2))))

theorem sepToks_bop (o : BOp) : C01.sepToks o.toOp = [.op (toOp3 o)] := by cases o <;> rfl

theorem written_grouped {f : FExpr} (hg : Grouped f) :
    C01.Written 0 (toExpr f) (toks f) ∧ ((∀ o a b, f ≠ .bin o a b) → C01.Written 4 (toExpr f) (toks f)) := by
  induction hg with
  | key k => exact ⟨.weaken (Nat.zero_le _) (.atom _), fun _ => .atom _⟩
  | @paren x _ ih =>
    have w : C01.Written 4 (toExpr (.paren x)) (toks (.paren x)) := .paren ih.1
    exact ⟨.weaken (Nat.zero_le _) w, fun _ => w⟩
  | @bin o l r _ _ hl hr ihl ihr =>
    have hle : o.toOp.prec ≤ 4 := by cases o <;> decide
    have := C01.Written.bin o.toOp (.weaken hle (ihl.2 hl)) (.weaken hle (ihr.2 hr))
    rw [sepToks_bop, List.append_assoc] at this
    exact ⟨.weaken (Nat.zero_le _) this, fun h => absurd rfl (h o l r)⟩

theorem boolSem_toExpr (env : List Char → Bool) (f : FExpr) : boolSem env (toExpr f) = C07.evalF env f := by
  induction f with
  | key k => rfl
  | paren x ih => exact ih
  | bin o l r ihl ihr => rw [toExpr, C08.boolSem_opf, ihl, ihr, C07.evalF_bin]; cases o <;> rfl

theorem fcExpr_toExpr (f : FExpr) : C08.FcExpr (toExpr f) = true := by
  induction f with
  | key k => rfl
  | paren x ih => exact ih
  | bin o l r ihl ihr => rw [toExpr, C08.fcExpr_bin, ihl, ihr]; cases o <;> rfl

theorem condKeys_toExpr (f : FExpr) : condKeys (toExpr f) = C07.fkeys f := by
  induction f with
  | key k => rfl
  | paren x ih => exact ih
  | bin o l r ihl ihr => rw [toExpr, condKeys_bin, ihl, ihr, C07.fkeys]

theorem grouped_grp {f : FExpr} (h : Grouped f) : Grouped f.grp ∧ ∀ o a b, f.grp ≠ .bin o a b := by
  cases f with
  | key k => exact ⟨h, fun _ _ _ h => by cases h⟩
  | paren x => exact ⟨.paren h, fun _ _ _ h => by cases h⟩
  | bin o l r => exact ⟨.paren h, fun _ _ _ h => by cases h⟩

/-- **C07 (well-formed).** The rendered string parses, to the collected tree up to same-operator grouping. -/
theorem C07_render_parses (f : FExpr) (hg : Grouped f) (hk : KeysOk f) :
    ∃ e, parseCond f.render.toList = some e ∧ e.flat = (toExpr f).flat := by
  rw [render_toList]
  exact C01.C01_string (spelt_render f hk) (written_grouped hg).1

theorem C07_collected_grouped (env : Env) (henv : ∀ k n, env k = some n → ∀ f, fcInit n = some f → f = .key k)
    (t : Expr) (n : Node) (h : evalRc env t = .ok n) : ∀ f, fcInit n = some f → Grouped f :=
  (collected_induct Grouped (fun _ h => (grouped_grp h).1)
    (fun o _ _ he hp => .bin o (grouped_grp he).1 (grouped_grp hp).1 (grouped_grp he).2 (grouped_grp hp).2)
    t fun k _ m g hm hg => henv k m hm g hg ▸ .key k).ok n h

/-- the parsed string has the value of the collected AST (by `C07_meaning`: of the direct reading of the source) -/
theorem C07_string_value (fcEnv : List Char → Bool) (f : FExpr) (hg : Grouped f) (hk : KeysOk f) :
    ∃ e, parseCond f.render.toList = some e ∧ boolSem fcEnv e = Ahbicht.Properties.C07.evalF fcEnv f := by
  obtain ⟨e, he, hf⟩ := C07_render_parses f hg hk
  exact ⟨e, he, by rw [C08.boolSem_flat fcEnv hf, boolSem_toExpr]⟩

end Ahbicht.Properties.C07Str

