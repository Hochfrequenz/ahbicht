import Ahbicht.Model.Time
/-! # C20 — the shipped date-time format constraints judge the instant, not its notation -/
namespace Ahbicht.Properties.C20
open Ahbicht Generated

/-- **T1 ⇒ EU rule.** The transitions pytz uses for Europe/Berlin from 1996 on are the 84 rows of the EU rule for 1996 … 2037, and
none follows. -/
theorem C20_pytz_is_eu_rule :
    berlinZone = "Europe/Berlin" ∧
    berlinTransitions.filter (fun e => decide (daysFromCivil 1996 1 1 * 86400 ≤ e.1)) = euTable 1996 2037 :=
  ⟨rfl, by decide +kernel⟩

/-- +1 h is in force at the start of 1996 (since the switch of 24 September 1995) -/
theorem C20_offset_at_start : berlinOffset (daysFromCivil 1996 1 1 * 86400) = 3600 := by decide +kernel

/-- the rows of the EU table carry +1 h or +2 h; for `berlinOffset t` C20Eu.lean shows it interval by interval, and that the intervals
cover all of 1996 … is by the calendar, not a theorem -/
theorem C20_offsets_whole_hours : ∀ e ∈ euTable 1996 2037, e.2 = 3600 ∨ e.2 = 7200 := by
  intro e he
  obtain ⟨i, -, hi⟩ := List.mem_flatMap.1 he
  rcases List.mem_cons.1 hi with rfl | hi
  · exact .inr rfl
  · cases List.mem_singleton.1 hi; exact .inl rfl

/-- **C20.** Two ways of writing the same instant get the same verdict for 932 … 935. -/
theorem C20_notation (w₁ w₂ : Written) (h : instant w₁ = instant w₂) :
    isStromtagLimit w₁ = isStromtagLimit w₂ ∧ isGastagLimit w₁ = isGastagLimit w₂ := by
  simp [isStromtagLimit, isGastagLimit, h]

/-- **C20 (932 … 935).** German local midnight resp. 06:00 of the instant, whatever offset it is written with (the model's definition,
unfolded). -/
theorem C20_strom (w : Written) : isStromtagLimit w = true ↔ localTod (instant w) = 0 := by
  simp [isStromtagLimit]
theorem C20_gas (w : Written) : isGastagLimit w = true ↔ localTod (instant w) = 6 * 3600 := by
  simp [isGastagLimit]

/-- **C20 (931).** The one constraint that reads the notation: a zero UTC offset, whatever the time of day. -/
theorem C20_931 (w : Written) : hasNoUtcOffset w = true ↔ w.off = 0 := by
  simp [hasNoUtcOffset]

theorem C20_shift (w : Written) (δ : Int) :
    instant { w with ss := w.ss + δ, off := w.off + δ } = instant w := by
  simp only [instant, ← Int.add_assoc, Int.add_sub_add_right]

/-- **C20 (hour grid).** With a whole-hour offset in force a fulfilled 932 … 935 lies on a whole hour of UTC, so the exhaustive sweep
over the whole hours of 1996 … 2037 meets every fulfilled instant. -/
theorem C20_hour_grid (t : Int) (h : berlinOffset t % 3600 = 0) (hv : localTod t = 0 ∨ localTod t = 21600) : t % 3600 = 0 := by
  unfold localTod at hv
  omega

/-! non-vacuity: the switch day 2022-03-27 — local midnight is 23:00 UTC the day before, 06:00 local is 04:00 UTC -/
example : isStromtagLimit ⟨2022, 3, 26, 23, 0, 0, 0⟩ = true ∧ isGastagLimit ⟨2022, 3, 27, 4, 0, 0, 0⟩ = true ∧
    isGastagLimit ⟨2022, 3, 27, 5, 0, 0, 0⟩ = false ∧ isStromtagLimit ⟨2022, 6, 1, 0, 0, 0, 7200⟩ = true := by decide +kernel

end Ahbicht.Properties.C20
