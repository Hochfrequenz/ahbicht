import Ahbicht.Lemmas.Rc
/-!
# C04 — requirement-constraint evaluation equals the documented compositional semantics

`evalRc` mirrors `RequirementConstraintTransformer`, `denote` is the compositional specification: on the documented domain the
hint / format-constraint machinery never leaks into the state.
-/
namespace Ahbicht.Properties.C04
open Ahbicht

variable {rcEnv : List Char → Option CFV} {hintEnv : List Char → Option String}

/-- **C04 (state).** The transformer returns a node, and its state is `denote` of the tree. -/
theorem C04_state {t : Expr} (hwf : WF t = true) (hv : invalidAt t = false) (ha : Assigns rcEnv hintEnv t) :
    ∃ n, evalRc (mkEnv rcEnv hintEnv) t = .ok n ∧ n.state = denote rcEnv t := by
  obtain ⟨n, hn, g⟩ := (eval_char t hwf ha).2 hv
  exact ⟨n, hn, g.state⟩

theorem C04_report (n : Node) : ((report n).fulfilled, (report n).conditional) = outcomeOf n.state := by
  unfold report
  cases n.state <;> rfl

/-- **C04 (outcome).** `requirement_constraint_evaluation` as a whole: no other error on the domain, and the outcome of `denote`. -/
theorem C04_outcome {t : Expr} (hwf : WF t = true) (hv : invalidAt t = false) (ha : Assigns rcEnv hintEnv t) :
    ∃ r, rcEvaluation rcEnv hintEnv t = .ok r ∧ (r.fulfilled, r.conditional) = outcomeOf (denote rcEnv t) := by
  obtain ⟨n, hn, hst⟩ := C04_state hwf hv ha
  refine ⟨report n, ?_, by rw [C04_report, hst]⟩
  rw [rcEvaluation_eq hwf ha, hn]
  rfl

/-! non-vacuity: `([1] U [501]) O [2][901]` with 1 ↦ UNKNOWN, 2 ↦ FULFILLED is in the domain, valid and FULFILLED -/
section
private def ex : Expr :=
  .bin .or_ (.bin .and_ (.leaf (.cond ['1'])) (.leaf (.cond ['5','0','1'])))
            (.bin .then_ (.leaf (.cond ['2'])) (.leaf (.cond ['9','0','1'])))
private def exRc : List Char → Option CFV := fun k => if k = ['1'] then some .K else if k = ['2'] then some .F else none
private def exHint : List Char → Option String := fun k => if k = ['5','0','1'] then some "Hinweis 501" else none
example : WF ex = true ∧ invalidAt ex = false ∧ denote exRc ex = .F := by decide +kernel
example : (rcEvaluation exRc exHint ex).toOption.map (fun r => (r.fulfilled, r.conditional, r.fce, r.hints)) =
    some (some true, some true, some "[901]", some "Hinweis 501") := by decide +kernel
end

end Ahbicht.Properties.C04
