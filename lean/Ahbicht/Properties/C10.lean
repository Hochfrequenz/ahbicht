import Ahbicht.Lemmas.Subst
import Ahbicht.Lemmas.Lex
/-!
# C10 — resolving packages and time conditions is exact bracketed substitution

Token level: replacing tokens and then parsing gives exactly the tree that expansion of the parsed tree gives.
-/
namespace Ahbicht.Properties.C10
open Ahbicht

/-- `(` body `)` if the resolver knows a well-formed body, else the package itself -/
def pkgToks (P : List Char → Option (List Char)) : Atom → List Tok
  | .pkg k r =>
    match (P k).bind lex with
    | some bt => if (parseToks bt).isSome then .lp :: bt ++ [.rp] else [.atom (.pkg k r)]
    | none => [.atom (.pkg k r)]
  | a => [.atom a]

theorem pkg_realises (P : List Char → Option (List Char)) : Realises (pkgToks P) (pkgSubst P) := by
  refine realises_iff.2 fun a => ?_
  cases a with
  | cond k => exact .atom _
  | time k => exact .atom _
  | pkg k r =>
    -- both sides branch on the tokens of the body and on whether they parse
    have e : (P k).bind parseCond = ((P k).bind lex).bind parseToks := by cases P k <;> rfl
    simp only [pkgToks, pkgSubst, e]
    cases (P k).bind lex with
    | none => exact .atom _
    | some bt =>
      cases hp : parseToks bt with
      | none => simpa [hp] using Chains.atom _
      | some be => simpa [hp] using chains_bracketed hp

/-- **C10 (packages).** Every package token replaced by `(` tokens of its expression `)`. -/
theorem C10_subst_packages (P : List Char → Option (List Char)) {ts : List Tok} {e : Expr} (h : parseToks ts = some e) :
    parseToks (substToks (pkgToks P) ts) = some (e.bind (pkgSubst P)) :=
  parse_subst (pkg_realises P) h

/-- tokens of `[932][492]X[934][493]` -/
def ub3Toks : List Tok :=
  [.atom (.cond ['9','3','2']), .atom (.cond ['4','9','2']), .op .xor_, .atom (.cond ['9','3','4']), .atom (.cond ['4','9','3'])]

theorem ub3_lex : lex "[932][492]X[934][493]".toList = some ub3Toks := by decide +kernel
theorem ub3_parse : parseToks ub3Toks = some ub3Tree := by decide +kernel

def timeToks : Atom → List Tok
  | .time ['U','B','1'] => [.atom (.cond ['9','3','2'])]
  | .time ['U','B','2'] => [.atom (.cond ['9','3','4'])]
  | .time ['U','B','3'] => .lp :: ub3Toks ++ [.rp]
  | a => [.atom a]

theorem time_realises : Realises timeToks timeSubst := by
  refine realises_iff.2 fun a => ?_
  unfold timeToks
  split
  · exact .atom _
  · exact .atom _
  · exact chains_bracketed ub3_parse
  · next h1 h2 h3 =>
    -- `timeSubst.eq_4`: the fall-through clause of `timeSubst`
    rw [timeSubst.eq_4 _ h1 h2 h3]
    exact .atom _

/-- **C10 (time conditions).** `[UB1]` ↦ `[932]`, `[UB2]` ↦ `[934]`, `[UB3]` ↦ `([932][492]X[934][493])` -/
theorem C10_subst_time {ts : List Tok} {e : Expr} (h : parseToks ts = some e) :
    parseToks (substToks timeToks ts) = some (expandTime e) :=
  parse_subst time_realises h

/-- **C10.** Both steps in the order of the resolver: packages first, so that time conditions inside package expressions are replaced
as well. -/
theorem C10_subst (P : List Char → Option (List Char)) {ts : List Tok} {e e' : Expr} (h : parseToks ts = some e)
    (hx : expandPkg P e = .ok e') :
    parseToks (substToks timeToks (substToks (pkgToks P) ts)) = some (expandTime e') := by
  unfold expandPkg at hx
  split at hx
  · cases hx
  · cases hx
    exact C10_subst_time (C10_subst_packages P h)

/-- **C10 (one level).** Packages inside a package expression are still packages. -/
theorem C10_one_level (P : List Char → Option (List Char)) (e : Expr) :
    (e.bind (pkgSubst P)).atoms = e.atoms.flatMap (fun a => (pkgSubst P a).atoms) := atoms_bind _ _

theorem mem_pkgPairs {e : Expr} {k : List Char} {r : Option (List Char)} :
    (k, r) ∈ pkgPairs e ↔ Atom.pkg k r ∈ e.atoms := by
  simp only [pkgPairs, List.mem_filterMap]
  constructor
  · rintro ⟨a, ha, h⟩
    cases a <;> simp only [Atom.pkgPair, Option.some.injEq, Prod.mk.injEq, reduceCtorEq] at h
    obtain ⟨rfl, rfl⟩ := h
    exact ha
  · exact fun h => ⟨_, h, rfl⟩

/-- **C10 (unknown package).** With well-formed repeatabilities, a package the resolver does not know aborts the expansion. -/
theorem C10_unknown (P : List Char → Option (List Char)) (e : Expr)
    (hrep : ∀ k r, Atom.pkg k (some r) ∈ e.atoms → repOk r = true)
    (hun : ∃ k r, Atom.pkg k r ∈ e.atoms ∧ P k = none) : expandPkg P e = .error .notImplemented := by
  obtain ⟨k, r, hmem, hk⟩ := hun
  have h1 : (pkgPairs e).any badRep = false := by
    rw [List.any_eq_false]
    rintro ⟨k', r'⟩ hkr
    cases r' with
    | none => simp [badRep]
    | some rr => simp [badRep, hrep k' rr (mem_pkgPairs.1 hkr)]
  have h2 : (pkgPairs e).any (fun kr => (P kr.1).isNone) = true :=
    List.any_eq_true.2 ⟨(k, r), mem_pkgPairs.2 hmem, by simp [hk]⟩
  simp [expandPkg, pkgFailure, h1, h2]

/-- **C10 (textual form of one replacement).** With `pre`, `post` and `body` complete token texts, replacing the text of one atom by
`(` + body + `)` replaces its token by `(` tokens of the body `)`. -/
theorem C10_textual {pre atomText body post : List Char} {ts₁ ts₂ bt : List Tok} {a : Atom}
    (h1 : lexFrom .out pre = some (.out, ts₁)) (h2 : lexFrom .out atomText = some (.out, [.atom a]))
    (h3 : lexFrom .out post = some (.out, ts₂)) (hb : lexFrom .out body = some (.out, bt)) :
    lex (pre ++ (atomText ++ post)) = some (ts₁ ++ ([.atom a] ++ ts₂)) ∧
    lex (pre ++ (['('] ++ (body ++ ([')'] ++ post)))) = some (ts₁ ++ ([.lp] ++ (bt ++ ([.rp] ++ ts₂)))) := by
  have hlp : lexFrom .out ['('] = some (.out, [.lp]) := by decide
  have hrp : lexFrom .out [')'] = some (.out, [.rp]) := by decide
  exact ⟨lex_eq_some.2 (lexFrom_seq h1 (lexFrom_seq h2 h3)),
    lex_eq_some.2 (lexFrom_seq h1 (lexFrom_seq hlp (lexFrom_seq hb (lexFrom_seq hrp h3))))⟩

/-! non-vacuity: `[1] U [7P]` with `7P ↦ [2] O [3]` -/
example :
    let P : List Char → Option (List Char) := fun k => if k = "7P".toList then some "[2] O [3]".toList else none
    (parseCond "[1] U [7P]".toList).map (Expr.bind (pkgSubst P)) = parseCond "[1] U ([2] O [3])".toList := by decide +kernel

end Ahbicht.Properties.C10
