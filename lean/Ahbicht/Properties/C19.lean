import Ahbicht.Model.Json
/-!
# C19 — JSON serialisation round-trips trees, evaluation inputs and evaluation results

Nullability of the fields comes from the extracted marshmallow descriptors, except for the hint values in `loadCer`
(hard-wired, see `cer_hint_values_nullable`).
-/
namespace Ahbicht.Properties.C19
open Ahbicht Generated

theorem rc_fields_nullable :
    allowNone rcS "requirement_constraints_fulfilled" = true ∧ allowNone rcS "requirement_is_conditional" = true ∧
    allowNone rcS "format_constraints_expression" = true ∧ allowNone rcS "hints" = true := by decide +kernel

theorem fc_fields_nullable : allowNone fcS "error_message" = true ∧ allowNone efcS "error_message" = true := by decide +kernel

theorem cer_fields_nullable : allowNone cerS "packages" = true ∧ allowNone cerS "id" = true := by decide +kernel

theorem tree_fields_nullable : allowNone "_TokenOrTreeSchema" "tree" = true ∧ allowNone "_TokenOrTreeSchema" "token" = true := by
  decide +kernel

/-- the declaration behind the hard-wired `loadOptStr true` in `loadCer`: `values=fields.String(allow_none=True)` -/
theorem cer_hint_values_nullable :
    ((schemas.find? (·.1 == cerS)).bind fun s => (s.2.1.find? (·.1 == "hints")).map (·.2.2.2.2.2.2.2)) = some "String->String?" := by
  decide +kernel

/-- declaration order = dump order; `Model/Json` is written with these orders (by inspection, no theorem) -/
theorem dump_orders :
    (schemas.map fun s => (s.1, s.2.1.map (·.2.2.2.2.1))) =
      [("TreeSchema", ["type", "children"]), ("TokenSchema", ["value", "type"]), ("_TokenOrTreeSchema", ["token", "tree"]),
       ("EvaluatedFormatConstraintSchema", ["format_constraint_fulfilled", "error_message"]),
       ("ContentEvaluationResultSchema", ["hints", "format_constraints", "requirement_constraints", "packages", "id"]),
       ("CategorizedKeyExtractSchema", ["hint_keys", "format_constraint_keys", "requirement_constraint_keys", "package_keys", "time_condition_keys"]),
       ("RequirementConstraintEvaluationResultSchema", ["requirement_constraints_fulfilled", "requirement_is_conditional", "format_constraints_expression", "hints"]),
       ("FormatConstraintEvaluationResultSchema", ["format_constraints_fulfilled", "error_message"]),
       ("AhbExpressionEvaluationResultSchema", ["requirement_indicator", "requirement_constraint_evaluation_result", "format_constraint_evaluation_result"]),
       ("RequirementIndicatorSchema", ["value"])] := rfl

theorem optBool_rt (o : Option Bool) : loadOptBool true (dumpOptBool o) = some o := by
  cases o with
  | none => rfl
  | some b => rfl

theorem optStr_rt (o : Option String) : loadOptStr true (dumpOptStr o) = some o := by
  cases o <;> rfl

/-- **C19**: the undetermined (null) outcome included -/
theorem C19_rcResult (r : RcResult) : loadRc (dumpRc r) = some r := by
  obtain ⟨h1, h2, h3, h4⟩ := rc_fields_nullable
  simp [loadRc, dumpRc, h1, h2, h3, h4, optBool_rt, optStr_rt]

theorem C19_fcResult (r : Efc) : loadFcResult (dumpFcResult r) = some r := by
  simp [loadFcResult, dumpFcResult, fc_fields_nullable.1, optStr_rt, loadBool]

theorem C19_efc (r : Efc) : loadEfc (dumpEfc r) = some r := by
  simp [loadEfc, dumpEfc, fc_fields_nullable.2, optStr_rt, loadBool]

theorem C19_ahbResult (r : AhbResultJ) (hi : r.indicator ∈ indicators) : loadAhb (dumpAhb r) = some r := by
  simp [loadAhb, dumpAhb, C19_rcResult, C19_fcResult, loadInd, dumpInd, hi]

theorem strList_rt (l : List String) : loadStrList (dumpStrList l) = some l := by
  induction l with
  | nil => rfl
  | cons s ss ih => simp [dumpStrList, loadStrList, loadStr, ih]

theorem dict_rt {α : Type} (f : α → J) (g : J → Option α) (h : ∀ a, g (f a) = some a) (d : List (String × α)) :
    loadDict g (dumpDict f d) = some d := by
  induction d with
  | nil => rfl
  | cons kv rest ih => obtain ⟨k, v⟩ := kv; simp [dumpDict, loadDict, h, ih]

theorem C19_extract (x : KeyExtractJ) : loadExtract (dumpExtract x) = some x := by
  simp [loadExtract, dumpExtract, strList_rt]

theorem cfv_rt (c : CFV) : loadCfv (dumpCfv c) = some c := by revert c; decide +kernel

/-- **C19**: `None` hints, empty dictionaries, with and without packages and id -/
theorem C19_cer (x : CerJ) : loadCer (dumpCer x) = some x := by
  obtain ⟨hp, hid⟩ := cer_fields_nullable
  obtain ⟨hints, fcs, rcs, packages, id⟩ := x
  have hs : ∀ a : String, loadStr (J.str a) = some a := fun _ => rfl
  cases packages <;>
    simp [loadCer, dumpCer, dict_rt _ _ optStr_rt, dict_rt _ _ C19_efc, dict_rt _ _ cfv_rt, dict_rt _ _ hs, hp, hid, optStr_rt]

mutual
/-- **C19 (parse trees)**, any depth and width -/
theorem C19_tree : ∀ t : LTree, loadTree (dumpTree t) = some t
  | .node d cs => by simp [dumpTree, loadTree, C19_forest cs]
theorem C19_forest : ∀ f : LForest, loadForest (dumpForest f) = some f
  | .nil => rfl
  | .consTok ty v rest => by simp [dumpForest, loadForest, tree_fields_nullable.1, C19_forest rest]
  | .consTree t rest => by simp [dumpForest, loadForest, tree_fields_nullable.2, C19_tree t, C19_forest rest]
end

/-- **C19 (evaluating a round-tripped tree).** The loaded tree is the original, so every function of it agrees. -/
theorem C19_eval {α : Type} (eval : LTree → α) (t : LTree) : (loadTree (dumpTree t)).map eval = some (eval t) := by
  rw [C19_tree]; rfl

/-! non-vacuity: the undetermined outcome -/
example : loadRc (dumpRc ⟨none, none, some "[901]", none⟩) = some ⟨none, none, some "[901]", none⟩ := C19_rcResult _

end Ahbicht.Properties.C19
