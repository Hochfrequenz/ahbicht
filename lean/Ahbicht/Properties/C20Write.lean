import Ahbicht.Lemmas.Calendar
import Ahbicht.Properties.C20Iso
/-!
# C20 for every instant × every offset × every writing

`writeInstant t off` is what `datetime.astimezone(timezone(off))` shows for UTC second `t`; with `C20_iso_roundtrip` every string that
writes `t` gets the verdict of `t`.  The calendar part is `civilFromDays_spec`, used on the days of the range.
-/
namespace Ahbicht.Properties.C20
open Ahbicht Generated

/-- the seconds of 1996 … 2037 (UTC): the years for which the pytz table is the EU rule -/
def rangeStart : Int := daysFromCivil 1996 1 1 * 86400
def rangeEnd : Int := daysFromCivil 2038 1 1 * 86400

/-- the days a second of the range can fall on when written with an offset inside ±24 h: 1995-12-31 … 2038-01-01 -/
def dayLo : Int := daysFromCivil 1995 12 31
def dayCount : Nat := 15343

theorem nat_div_raw (a b : Nat) : Nat.div a b = a / b := rfl
theorem nat_mod_raw (a b : Nat) : Nat.mod a b = a % b := rfl

theorem dayLo_eq : dayLo = 9495 := by decide +kernel

/-- **C20 (calendar on the range).** The date `writeInstant` computes for a day of the range is valid and denotes that day. -/
theorem C20_civil_range : ∀ i, i < dayCount →
    let c := civilFromDays (dayLo + Int.ofNat i)
    daysFromCivil c.1 c.2.1 c.2.2 = dayLo + Int.ofNat i ∧ 1995 ≤ c.1 ∧ c.1 ≤ 2038 ∧ 1 ≤ c.2.1 ∧ c.2.1 ≤ 12 ∧ 1 ≤ c.2.2 ∧
      c.2.2.toNat ≤ daysInMonth c.1.toNat c.2.1.toNat := by
  intro i hi
  rw [dayLo_eq, Int.ofNat_eq_natCast]
  unfold dayCount at hi
  obtain ⟨h, hm1, hm12, hd1, hd, hy⟩ := civilFromDays_spec (9495 + i) (by omega)
  exact ⟨h, by omega, by omega, hm1, hm12, hd1, hd⟩

theorem C20_range_days : dayLo + Int.ofNat dayCount = daysFromCivil 2038 1 1 + 1 ∧ dayLo + 1 = daysFromCivil 1996 1 1 := by
  decide +kernel

theorem rangeStart_eq : rangeStart = 820454400 := by decide +kernel
theorem rangeEnd_eq : rangeEnd = 2145916800 := by decide +kernel

theorem day_in_range (t off : Int) (ht : rangeStart ≤ t ∧ t < rangeEnd) (ho : -86400 < off ∧ off < 86400) :
    ∃ i : Nat, i < dayCount ∧ (t + off) / 86400 = dayLo + Int.ofNat i := by
  rw [rangeStart_eq, rangeEnd_eq] at ht
  rw [dayLo_eq, dayCount]
  exact ⟨((t + off) / 86400 - 9495).toNat, by rw [Int.ofNat_eq_natCast]; omega⟩

theorem tod_spec (loc sod : Int) (h : sod = loc % 86400) :
    (0 ≤ sod / 3600 ∧ sod / 3600 < 24 ∧ 0 ≤ sod % 3600 / 60 ∧ sod % 3600 / 60 < 60 ∧ 0 ≤ sod % 60 ∧ sod % 60 < 60) ∧
    loc / 86400 * 86400 + sod / 3600 * 3600 + sod % 3600 / 60 * 60 + sod % 60 = loc := by
  omega

/-- **C20 (the writing).** A second of 1996 … 2037 shown at any offset inside ±24 h denotes that second again; its fields lie in the
ranges `datetime` accepts (`C20_write_valid` below), so C20Iso.lean applies to it. -/
theorem C20_write_instant (t off : Int) (ht : rangeStart ≤ t ∧ t < rangeEnd) (ho : -86400 < off ∧ off < 86400) :
    instant (writeInstant t off) = t := by
  obtain ⟨i, hi, hz⟩ := day_in_range t off ht ho
  simp only [instant, writeInstant, (hz ▸ C20_civil_range i hi).1, (tod_spec (t + off) _ rfl).2, Int.add_sub_cancel]

theorem valid_mk (y m d hh mm ss off : Int) (hy : 1 ≤ y ∧ y ≤ 9999) (hmd : 1 ≤ m ∧ m ≤ 12 ∧ 1 ≤ d ∧ d.toNat ≤ daysInMonth y.toNat m.toNat)
    (ht : 0 ≤ hh ∧ hh < 24 ∧ 0 ≤ mm ∧ mm < 60 ∧ 0 ≤ ss ∧ ss < 60) (ho : -86400 < off ∧ off < 86400) :
    Written.valid ⟨y, m, d, hh, mm, ss, off⟩ = true := by
  simp only [Written.valid, fieldsValid, Bool.and_eq_true, decide_eq_true_eq]
  omega

theorem C20_write_valid (t off : Int) (ht : rangeStart ≤ t ∧ t < rangeEnd) (ho : -86400 < off ∧ off < 86400) :
    (writeInstant t off).valid = true := by
  obtain ⟨i, hi, hz⟩ := day_in_range t off ht ho
  obtain ⟨_, hy1, hy2, hmd⟩ := hz ▸ C20_civil_range i hi
  exact valid_mk _ _ _ _ _ _ _ ⟨Int.le_trans (by decide) hy1, Int.le_trans hy2 (by decide)⟩ hmd (tod_spec (t + off) _ rfl).1 ho

/-- **C20 (instants × offsets × notations).** 932/933 fulfilled exactly at 00:00:00 German local time, 934/935 at 06:00:00, 931 exactly
at offset zero, with a message otherwise.  Local time is by the extracted table; that it is the EU rule on each interval is C20Eu.lean. -/
theorem C20_every_instant_every_offset (t off : Int) (ht : rangeStart ≤ t ∧ t < rangeEnd) (ho : -86400 < off ∧ off < 86400)
    (sep : Char) (st : OffStyle) (hst : styleFits st off = true) (hsep : sep ≠ 'Z') :
    judgeStrom (renderIso sep st (writeInstant t off)) = some ⟨decide (localTod t = 0), !decide (localTod t = 0)⟩ ∧
    judgeGas (renderIso sep st (writeInstant t off)) = some ⟨decide (localTod t = 21600), !decide (localTod t = 21600)⟩ ∧
    judge931 (renderIso sep st (writeInstant t off)) = some ⟨decide (off = 0), !decide (off = 0)⟩ := by
  have hv := C20_write_valid t off ht ho
  have hi := C20_write_instant t off ht ho
  obtain ⟨_, _, hs, hg⟩ := C20_iso_every_writing _ _ sep sep st st hv hv hst hst hsep hsep rfl
  rw [hi] at hs hg
  exact ⟨hs, hg, C20_iso_931 _ _ (C20_iso_roundtrip _ sep st hv hst hsep)⟩

/-- **C20 (the offset is notation).** One instant at two UTC offsets (`…T23:00:00Z`, `…T00:00:00+01:00`) gets one verdict for 932 … 935. -/
theorem C20_offset_irrelevant (t off₁ off₂ : Int) (ht : rangeStart ≤ t ∧ t < rangeEnd)
    (ho₁ : -86400 < off₁ ∧ off₁ < 86400) (ho₂ : -86400 < off₂ ∧ off₂ < 86400)
    (sep₁ sep₂ : Char) (st₁ st₂ : OffStyle) (hst₁ : styleFits st₁ off₁ = true) (hst₂ : styleFits st₂ off₂ = true)
    (hsep₁ : sep₁ ≠ 'Z') (hsep₂ : sep₂ ≠ 'Z') :
    judgeStrom (renderIso sep₁ st₁ (writeInstant t off₁)) = judgeStrom (renderIso sep₂ st₂ (writeInstant t off₂)) ∧
    judgeGas (renderIso sep₁ st₁ (writeInstant t off₁)) = judgeGas (renderIso sep₂ st₂ (writeInstant t off₂)) := by
  have h₁ := C20_every_instant_every_offset t off₁ ht ho₁ sep₁ st₁ hst₁ hsep₁
  have h₂ := C20_every_instant_every_offset t off₂ ht ho₂ sep₂ st₂ hst₂ hsep₂
  exact ⟨h₁.1.trans h₂.1.symm, h₁.2.1.trans h₂.2.1.symm⟩

/-! non-vacuity: 2037-12-31T23:00:00Z is in range and German midnight; with +01:00 it reads 2038-01-01T00:00:00+01:00 -/
example : rangeStart ≤ (daysFromCivil 2037 12 31 * 86400 + 23 * 3600) ∧ (daysFromCivil 2037 12 31 * 86400 + 23 * 3600) < rangeEnd := by
  decide +kernel
example : String.ofList (renderIso 'T' .short (writeInstant (daysFromCivil 2037 12 31 * 86400 + 23 * 3600) 3600)) = "2038-01-01T00:00:00+01:00" := by
  decide +kernel
example : judgeStrom (renderIso 'T' .short (writeInstant (daysFromCivil 2037 12 31 * 86400 + 23 * 3600) 3600)) = some ⟨true, false⟩ := by
  decide +kernel

end Ahbicht.Properties.C20
