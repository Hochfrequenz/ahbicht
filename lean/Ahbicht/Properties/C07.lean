import Ahbicht.Lemmas.Rc
/-!
# C07 — the collected format-constraint expression is well-formed and meaning-preserving

That the collected expression is built from keys by U/O/X and brackets only holds by construction of `FExpr`.
-/
namespace Ahbicht.Properties.C07
open Ahbicht

def evalF (fcEnv : List Char → Bool) : FExpr → Bool
  | .key k => fcEnv k
  | .paren x => evalF fcEnv x
  | .bin .and_ l r => evalF fcEnv l && evalF fcEnv r
  | .bin .or_ l r => evalF fcEnv l || evalF fcEnv r
  | .bin .xor_ l r => evalF fcEnv l != evalF fcEnv r

def bop : BOp → Bool → Bool → Bool
  | .and_, a, b => a && b | .or_, a, b => a || b | .xor_, a, b => a != b

/-- combination in which "contributes nothing" is the unit -/
def combine (o : BOp) : Option Bool → Option Bool → Option Bool
  | none, b => b
  | a, none => a
  | some a, some b => some (bop o a b)

/-- the direct reading of the source: an attached format constraint counts only if its partner is FULFILLED or a hint; what contributes
nothing is omitted -/
def fcSem (rcEnv : List Char → Option CFV) (fcEnv : List Char → Bool) : Expr → Option Bool
  | .leaf (.cond k) => if catOf k = some .fc then some (fcEnv k) else none
  | .leaf _ => none
  | .bin .and_ l r => combine .and_ (fcSem rcEnv fcEnv l) (fcSem rcEnv fcEnv r)
  | .bin .or_ l r => combine .or_ (fcSem rcEnv fcEnv l) (fcSem rcEnv fcEnv r)
  | .bin .xor_ l r => combine .xor_ (fcSem rcEnv fcEnv l) (fcSem rcEnv fcEnv r)
  | .bin .then_ l r =>
    if l.isFcLeaf then
      if denote rcEnv r = .F ∨ r.isHintLeaf = true then combine .and_ (fcSem rcEnv fcEnv l) (fcSem rcEnv fcEnv r) else none
    else
      if denote rcEnv l = .F ∨ l.isHintLeaf = true then combine .and_ (fcSem rcEnv fcEnv r) (fcSem rcEnv fcEnv l) else none

theorem evalF_grp (fcEnv : List Char → Bool) (f : FExpr) : evalF fcEnv f.grp = evalF fcEnv f := by
  cases f <;> rfl

theorem evalF_bin (fcEnv : List Char → Bool) (o : BOp) (l r : FExpr) :
    evalF fcEnv (.bin o l r) = bop o (evalF fcEnv l) (evalF fcEnv r) := by
  cases o <;> rfl

theorem fcConn_val (fcEnv : List Char → Bool) (o : BOp) (x y : Option FExpr) :
    (fcConn o x y).map (evalF fcEnv) = combine o (x.map (evalF fcEnv)) (y.map (evalF fcEnv)) := by
  cases x <;> cases y <;> simp [fcConn, combine, evalF_bin, evalF_grp]

theorem collect_val (rcEnv : List Char → Option CFV) (fcEnv : List Char → Bool) (t : Expr) :
    (collect rcEnv t).map (evalF fcEnv) = fcSem rcEnv fcEnv t := by
  induction t with
  | leaf a =>
    cases a with
    | cond k => simp only [collect, fcSem]; split <;> rfl
    | _ => rfl
  | bin o l r ihl ihr =>
    cases o with
    | then_ =>
      -- both sides branch on the same two tests: the map goes into the branches
      simp only [collect, fcSem, apply_ite (Option.map (evalF fcEnv)), Option.map_none, fcConn_val, ihl, ihr]
    | _ => simp only [collect, fcSem, fcConn_val, ihl, ihr]

variable {rcEnv : List Char → Option CFV} {hintEnv : List Char → Option String}

/-- **C07 (meaning).** Under every truth assignment to the format keys the collected expression has the value of the direct reading. -/
theorem C07_meaning (fcEnv : List Char → Bool) (t : Expr) (hwf : WF t = true) (ha : Assigns rcEnv hintEnv t)
    (hv : invalidAt t = false) {n : Node} (hn : evalRc (mkEnv rcEnv hintEnv) t = .ok n) :
    (fcInit n).map (evalF fcEnv) = fcSem rcEnv fcEnv t := by
  rw [((eval_collect t hwf ha).ok n hn).2.2, collect_val]

/-- **C07 (absent).** It is absent exactly if, by the direct reading, nothing contributes. -/
theorem C07_absent (fcEnv : List Char → Bool) (t : Expr) (hwf : WF t = true) (ha : Assigns rcEnv hintEnv t)
    (hv : invalidAt t = false) {n : Node} (hn : evalRc (mkEnv rcEnv hintEnv) t = .ok n) :
    fcInit n = none ↔ fcSem rcEnv fcEnv t = none := by
  rw [← C07_meaning fcEnv t hwf ha hv hn, Option.map_eq_none_iff]

/-- what is reported as `format_constraints_expression` is the rendering of that AST -/
theorem C07_reported (n : Node) : (report n).fce = (fcInit n).map FExpr.render := by
  cases n with
  | rc k st => rfl
  | hint k t => rfl
  | fc k => rfl
  | comp st h x => cases x <;> rfl

def fkeys : FExpr → List (List Char)
  | .key k => [k]
  | .paren x => fkeys x
  | .bin _ l r => fkeys l ++ fkeys r

theorem keys_grp (f : FExpr) : fkeys f.grp = fkeys f := by cases f <;> rfl

/-- **C07 (keys).** Only format-constraint keys of the source occur in the collected expression. -/
theorem C07_keys (env : Env) (henv : ∀ k n, env k = some n → (n = .fc k ∧ catOf k = some .fc) ∨ fcInit n = none) :
    ∀ (t : Expr) (n : Node), evalRc env t = .ok n → ∀ f, fcInit n = some f → ∀ k ∈ fkeys f, k ∈ condKeys t ∧ catOf k = some .fc := by
  intro t n hn f hf
  refine (collected_induct (fun f => ∀ k ∈ fkeys f, k ∈ condKeys t ∧ catOf k = some .fc)
    (fun f h => by rwa [keys_grp])
    (fun o e p he hp k hk => by
      simp only [fkeys, keys_grp, List.mem_append] at hk
      exact hk.elim (he k) (hp k))
    t fun k hk m g hm hg => ?_).ok n hn f hf
  rcases henv k m hm with ⟨rfl, hc⟩ | h0
  · cases hg
    exact List.forall_mem_singleton.2 ⟨hk, hc⟩
  · rw [h0] at hg; cases hg

/-! non-vacuity: `([1] U [901]) [902]` with 1 ↦ FULFILLED collects `[902] U [901]` -/
example : (rcEvaluation (fun k => if k = ['1'] then some .F else none) (fun _ => none)
    (.bin .then_ (.bin .and_ (.leaf (.cond ['1'])) (.leaf (.cond ['9','0','1']))) (.leaf (.cond ['9','0','2'])))).toOption.map (·.fce) =
    some (some "[902] U [901]") := by decide +kernel

end Ahbicht.Properties.C07
