import Ahbicht.Properties.C07Str
import Ahbicht.Properties.C08
import Ahbicht.Properties.C09
import Ahbicht.Model.Full
import Ahbicht.Properties.C02Lex
import Ahbicht.Properties.C01Every
import Ahbicht.Lemmas.Flat
import Ahbicht.Lemmas.Subst
/-!
# C16 / C09 end to end — the evaluator of AHB expressions is total on the documented domain, and fails exactly on invalid parts

The characterisation of requirement evaluation (`eval_collect`, behind C04 and C06), C07, C08 and C09 composed into statements about `evalPart`, `evalAhb` and the node evaluator `nodeRes` (Model/Full.lean).
-/
namespace Ahbicht.Properties.C16Full
open Ahbicht

/-- the documented domain for one part -/
structure PartOk (rcEnv : List Char → Option CFV) (hintEnv : List Char → Option String) (fcEnv : FcEnv) (e : Expr) : Prop where
  wf : WF e = true
  assigns : Assigns rcEnv hintEnv e
  fcKnown : ∀ k ∈ condKeys e, catOf k = some .fc → (fcEnv k).isSome

/-- format-constraint keys as the parser delivers them: non-empty strings of ASCII digits -/
def FcDigits (e : Expr) : Prop :=
  ∀ k ∈ condKeys e, catOf k = some .fc → k ≠ [] ∧ ∀ c ∈ k, isIntDigit c = true

theorem evalPart_ok {rcEnv : List Char → Option CFV} {hintEnv : List Char → Option String} {fcEnv : FcEnv} {ind : String}
    {e : Expr} {rc : RcResult} (hrc : rcEvaluation rcEnv hintEnv e = .ok rc)
    (hfc : ∀ s, rc.fce = some s → ∃ t fc, parseCond s.toList = some t ∧ evalFc fcEnv t = .ok fc) :
    ∃ fc, evalPart rcEnv hintEnv fcEnv ind e = .ok ⟨ind, rc, fc⟩ := by
  rw [evalPart, hrc]
  simp only [bind, Except.bind]
  split
  · exact ⟨_, rfl⟩
  · next s hs =>
    obtain ⟨t, fc, ht, hfc⟩ := hfc s hs
    split
    · exact ⟨_, rfl⟩
    · exact ⟨fc, by simp only [ht, hfc]; rfl⟩

theorem collected_evaluates {rcEnv : List Char → Option CFV} {hintEnv : List Char → Option String} {fcEnv : FcEnv} {e : Expr}
    (h : PartOk rcEnv hintEnv fcEnv e) (hd : FcDigits e) {n : Node} (hn : evalRc (mkEnv rcEnv hintEnv) e = .ok n) :
    ∀ s, (report n).fce = some s → ∃ t fc, parseCond s.toList = some t ∧ evalFc fcEnv t = .ok fc := by
  intro s hs
  rw [C07.C07_reported] at hs
  obtain ⟨f, hf, rfl⟩ := Option.map_eq_some_iff.1 hs
  have hkeys := C07.C07_keys (mkEnv rcEnv hintEnv) mkEnv_fc e n hn f hf
  have hg : C07Str.Grouped f :=
    C07Str.C07_collected_grouped (mkEnv rcEnv hintEnv) mkEnv_key e n hn f hf
  have hk : C07Str.KeysOk f := (C07Str.keysOk_iff f).2 fun k hk => hd k (hkeys k hk).1 (hkeys k hk).2
  obtain ⟨t, ht, hflat⟩ := C07Str.C07_render_parses f hg hk
  have hfc : C08.FcExpr t = true := by rw [C08.fcExpr_flat hflat]; exact C07Str.fcExpr_toExpr f
  have hkt : condKeys t = C07.fkeys f := by rw [condKeys_flat hflat]; exact C07Str.condKeys_toExpr f
  obtain ⟨r, hr⟩ := C08.evalFc_total (env := fcEnv) hfc
    (fun k hk => by rw [hkt] at hk; exact h.fcKnown k (hkeys k hk).1 (hkeys k hk).2)
  exact ⟨t, r, ht, hr⟩

theorem evalPart_raises {rcEnv : List Char → Option CFV} {hintEnv : List Char → Option String} {fcEnv : FcEnv}
    (ind : String) (e : Expr) (h : PartOk rcEnv hintEnv fcEnv e) (hd : FcDigits e) :
    RaisesIff (evalPart rcEnv hintEnv fcEnv ind e) (invalidAt e) .invalidExpr fun r => r.indicator = ind := by
  have hc := eval_collect e h.wf h.assigns
  have hrc := rcEvaluation_eq h.wf h.assigns
  cases hn : evalRc (mkEnv rcEnv hintEnv) e with
  | error err =>
    rw [hn] at hc hrc
    rw [evalPart, hrc]
    exact hc
  | ok n =>
    rw [hn] at hc hrc
    obtain ⟨fc, hfc⟩ := evalPart_ok (ind := ind) hrc (collected_evaluates h hd hn)
    rw [hfc]
    exact ⟨hc.1, rfl⟩

/-- **one part.**  Without `FcDigits e`, which `PartOk` does not imply, the statement fails: `evalPart_needs_digit_keys`. -/
theorem evalPart_total {rcEnv : List Char → Option CFV} {hintEnv : List Char → Option String} {fcEnv : FcEnv}
    (ind : String) (e : Expr) (h : PartOk rcEnv hintEnv fcEnv e) (hd : FcDigits e) :
    (invalidAt e = true → evalPart rcEnv hintEnv fcEnv ind e = .error .invalidExpr) ∧
    (invalidAt e = false → ∃ r, evalPart rcEnv hintEnv fcEnv ind e = .ok r ∧ r.indicator = ind) :=
  (evalPart_raises ind e h hd).split

/-- every normalised indicator is one of the six requirement indicators -/
theorem indicatorTable_ind :
    Generated.indicatorTable.all (fun e => match e.2.2 with | some s => (Ind.ofString? s).isSome | none => true) = true := by
  decide +kernel

theorem normalise_ind {kind : IndKind} {w : List Char} {ind : String} (h : normalise kind w = some ind) :
    (Ind.ofString? ind).isSome = true := by
  unfold normalise at h
  simp only at h
  split at h
  · next e he =>
    have hm := List.mem_of_find?_eq_some he
    have := List.all_eq_true.1 indicatorTable_ind e hm
    rw [h] at this
    exact this
  · cases h

/-- the documented domain for a parsed and resolved AHB expression -/
structure PartsOk (rcEnv : List Char → Option CFV) (hintEnv : List Char → Option String) (fcEnv : FcEnv)
    (parts : List (Part × Option Expr)) : Prop where
  nonempty : parts ≠ []
  indicators : ∀ pe ∈ parts, (normalise pe.1.kind pe.1.ind).isSome
  parts : ∀ pe ∈ parts, ∀ e, pe.2 = some e → PartOk rcEnv hintEnv fcEnv e

def somePartInvalid (parts : List (Part × Option Expr)) : Bool :=
  parts.any fun pe => match pe.2 with | some e => invalidAt e | none => false

/-- the function `evalAhb` maps over the parts, named so that statements can mention it -/
def partEval (rcEnv : List Char → Option CFV) (hintEnv : List Char → Option String) (fcEnv : FcEnv)
    (pe : Part × Option Expr) : Except EvalErr AhbResult :=
  match normalise pe.1.kind pe.1.ind with
  | none => throw .other
  | some ind =>
    match pe.2 with
    | none => pure (bareResult ind)
    | some e => evalPart rcEnv hintEnv fcEnv ind e

/-- the test inside `somePartInvalid`, likewise -/
def partInvalid (pe : Part × Option Expr) : Bool :=
  match pe.2 with
  | some e => invalidAt e
  | none => false

/-- **whole AHB expression**; the result's indicator is a requirement indicator.  The spelling hypothesis cannot be dropped:
`evalAhb_needs_digit_keys`. -/
theorem evalAhb_total {rcEnv : List Char → Option CFV} {hintEnv : List Char → Option String} {fcEnv : FcEnv}
    (parts : List (Part × Option Expr)) (h : PartsOk rcEnv hintEnv fcEnv parts)
    (hd : ∀ pe ∈ parts, ∀ e, pe.2 = some e → FcDigits e) :
    (somePartInvalid parts = true → evalAhb rcEnv hintEnv fcEnv parts = .error .invalidExpr) ∧
    (somePartInvalid parts = false →
      ∃ r, evalAhb rcEnv hintEnv fcEnv parts = .ok r ∧ (Ind.ofString? r.indicator).isSome = true) := by
  refine RaisesIff.split ?_
  show RaisesIff ((parts.mapM (partEval rcEnv hintEnv fcEnv)).bind _) (parts.any partInvalid) _ _
  have part : ∀ pe ∈ parts, Sat (partEval rcEnv hintEnv fcEnv pe)
      (fun r => partInvalid pe = false ∧ (Ind.ofString? r.indicator).isSome = true)
      fun err => parts.any partInvalid = true ∧ err = .invalidExpr := by
    rintro ⟨p, oe⟩ hpe
    obtain ⟨ind, hn⟩ := Option.isSome_iff_exists.1 (h.indicators _ hpe)
    rw [partEval, hn]
    cases oe with
    | none => exact ⟨rfl, normalise_ind hn⟩
    | some e =>
      exact (evalPart_raises ind e (h.parts _ hpe e rfl) (hd _ hpe e rfl)).mono (fun r hr => ⟨hr.1, hr.2 ▸ normalise_ind hn⟩)
        fun err he => ⟨List.any_eq_true.2 ⟨_, hpe, he.1⟩, he.2⟩
  refine .bind ((Sat.mapM (R := fun l (rs : List AhbResult) => l.any partInvalid = false ∧ rs.length = l.length ∧
      ∀ r ∈ rs, (Ind.ofString? r.indicator).isSome = true)
    ⟨rfl, rfl, fun _ hr => absurd hr List.not_mem_nil⟩ (fun pe l r rs hr hrs => ⟨by rw [List.any_cons, hr.1, hrs.1]; rfl, congrArg (· + 1) hrs.2.1,
      List.forall_mem_cons.2 ⟨hr.2, hrs.2.2⟩⟩) part).imp fun rs ⟨hany, hlen, hR⟩ => ?_)
  obtain ⟨r, hr⟩ := C09.selectResult_some (rs := rs) fun h0 => h.nonempty (List.length_eq_zero_iff.1 (hlen ▸ congrArg List.length h0))
  obtain ⟨r₀, hr₀, hind, _⟩ := C09.C09_select_mem hr
  rw [hr]
  exact ⟨hany, (congrArg (fun i => (Ind.ofString? i).isSome) hind).trans (hR r₀ hr₀)⟩

/-- a condition key as the scanner delivers it -/
def GoodAtom : Atom → Prop
  | .cond k => k ≠ [] ∧ ∀ c ∈ k, isIntDigit c = true
  | _ => True

def GoodExpr (e : Expr) : Prop := ∀ a ∈ e.atoms, GoodAtom a

theorem goodExpr_leaf {a : Atom} (h : GoodAtom a) : GoodExpr (.leaf a) :=
  List.forall_mem_singleton.2 h

theorem spelt_good {ts : List Tok} {cs : List Char} (h : Spelt ts cs) : ∀ a, Tok.atom a ∈ ts → GoodAtom a := by
  induction h with
  | nil w hw => intro a ha; cases ha
  | cons w s rest t ts hw ht _ ih =>
    intro a ha
    rcases List.mem_cons.1 ha with rfl | ha
    · cases ht with
      | atom o c a body ho hc hb =>
        cases hb with
        | cond ds w1 w2 hne hds _ _ => exact ⟨hne, hds⟩
        | pkg => trivial
        | pkgRep => trivial
        | time => trivial
    · exact ih a ha

/-- the condition keys of a parsed condition expression are non-empty strings of ASCII digits -/
theorem parseCond_good {cs : List Char} {e : Expr} (h : parseCond cs = some e) : GoodExpr e := by
  obtain ⟨ts, hl, h⟩ := Option.bind_eq_some_iff.1 h
  exact fun a ha => spelt_good (C02Lex.C02_lex_complete cs ts hl) a (C01.written_atoms (C01Every.parse_written h) a ha)

theorem bind_good {σ : Atom → Expr} (hσ : ∀ a, GoodAtom a → GoodExpr (σ a)) (e : Expr) (h : GoodExpr e) : GoodExpr (e.bind σ) := by
  intro a ha
  obtain ⟨b, hb, hab⟩ := List.mem_flatMap.1 (atoms_bind σ e ▸ ha)
  exact hσ b (h b hb) a hab

theorem pkgSubst_good (P : List Char → Option (List Char)) (a : Atom) (ha : GoodAtom a) : GoodExpr (pkgSubst P a) := by
  cases a with
  | pkg k r =>
    simp only [pkgSubst]
    split
    · next hb =>
      obtain ⟨_, _, hb⟩ := Option.bind_eq_some_iff.1 hb
      exact parseCond_good hb
    · exact goodExpr_leaf ha
  | _ => exact goodExpr_leaf ha

theorem ub3Tree_good : GoodExpr ub3Tree := by
  intro a ha
  simp only [ub3Tree, Expr.atoms, List.mem_append, List.mem_singleton] at ha
  rcases ha with (rfl | rfl) | (rfl | rfl) <;> exact ⟨by simp, by decide⟩

theorem timeSubst_good (a : Atom) (ha : GoodAtom a) : GoodExpr (timeSubst a) := by
  unfold timeSubst
  split
  · exact goodExpr_leaf ⟨by simp, by decide⟩
  · exact goodExpr_leaf ⟨by simp, by decide⟩
  · exact ub3Tree_good
  · exact goodExpr_leaf ha

theorem resolveParse_ahb {cs : List Char} {parts : List (Part × Option Expr)} (h : resolveParse cs = .ahb parts) :
    ∀ pe ∈ parts, pe.2 = pe.1.cond.bind parseCond := by
  unfold resolveParse at h
  split at h
  · simp only at h
    split at h
    · cases h
      intro pe hpe
      obtain ⟨p, _, rfl⟩ := List.mem_map.1 hpe
      rfl
    · split at h <;> cases h
  · split at h <;> cases h

theorem resolveParts_ok {P : List Char → Option (List Char)} {parts parts' : List (Part × Option Expr)}
    (h : resolveParts P parts = .ok parts') :
    parts' = parts.map fun pe => (pe.1, pe.2.map fun e => expandTime (e.bind (pkgSubst P))) := by
  apply Sat.ok (E := fun _ => True) ?_ parts' h
  exact .ite (fun _ => trivial) fun _ => .ite (fun _ => trivial) fun _ => .ite (fun _ => trivial) fun _ => rfl

theorem resolved_good {P : List Char → Option (List Char)} {text : List Char} {parts parts' : List (Part × Option Expr)}
    (hp : resolveParse text = .ahb parts) (hr : resolveParts P parts = .ok parts') :
    ∀ pe ∈ parts', ∀ e, pe.2 = some e → GoodExpr e := by
  rw [resolveParts_ok hr]
  intro pe hpe e he
  obtain ⟨pe0, hpe0, rfl⟩ := List.mem_map.1 hpe
  obtain ⟨e0, he0, rfl⟩ := Option.map_eq_some_iff.1 he
  obtain ⟨c, _, hc⟩ := Option.bind_eq_some_iff.1 ((resolveParse_ahb hp pe0 hpe0).symm.trans he0)
  exact bind_good timeSubst_good _ (bind_good (pkgSubst_good P) _ (parseCond_good hc))

/-- **C16 end to end.** A node whose expression resolves to parts of the documented domain is reported invalid iff some part is
structurally invalid, and otherwise yields a result: it never aborts the run. -/
theorem C16_full_invalid_iff (cer : Cer) (text : List Char) (parts parts' : List (Part × Option Expr))
    (hp : resolveParse text = .ahb parts) (hr : resolveParts cer.pkg parts = .ok parts')
    (h : PartsOk cer.rc cer.hints cer.fc parts') :
    (somePartInvalid parts' = true → nodeRes cer text = .ok (.invalid "")) ∧
    (somePartInvalid parts' = false → ∃ r, nodeRes cer text = .ok (.ok r)) := by
  have hd : ∀ pe ∈ parts', ∀ e, pe.2 = some e → FcDigits e :=
    fun pe hpe e he k hk _ => resolved_good hp hr pe hpe e he (.cond k) (mem_condKeys.1 hk)
  obtain ⟨t1, t2⟩ := evalAhb_total parts' h hd
  constructor
  · intro hbad
    simp only [nodeRes, hp, hr, t1 hbad]
  · intro hgood
    obtain ⟨r, hr', hind⟩ := t2 hgood
    obtain ⟨ind, hi⟩ := Option.isSome_iff_exists.1 hind
    exact ⟨⟨ind, r.rc.fulfilled, r.rc.hints, r.fc.ok, r.fc.msg⟩, by simp only [nodeRes, hp, hr, hr', evalResOf, hi]⟩

/-- `Except EvalErr AhbResult` has no `DecidableEq`: a concrete outcome is decided through this Boolean test -/
theorem eq_error_other {x : Except EvalErr AhbResult}
    (h : (match x with | .error e => e == EvalErr.other | .ok _ => false) = true) : x = .error .other := by
  cases x with
  | ok _ => cases h
  | error e => cases e <;> first | rfl | cases h

/-- `[8:1]`: `8:1` is categorised as the format constraint 901 (`':'` counts as the digit 10) and the part satisfies `PartOk`, but the
collected `[8:1]` is not a condition expression -/
theorem evalPart_needs_digit_keys :
    PartOk (fun _ => none) (fun _ => none) (fun _ => some ⟨true, none⟩) (.leaf (.cond ['8', ':', '1'])) ∧
    invalidAt (.leaf (.cond ['8', ':', '1'])) = false ∧
    evalPart (fun _ => none) (fun _ => none) (fun _ => some ⟨true, none⟩) "MUSS" (.leaf (.cond ['8', ':', '1'])) = .error .other := by
  have hfc : ∀ {c : Cat} {k : List Char}, k ∈ condKeys (.leaf (.cond ['8', ':', '1'])) → catOf k = some c → c = .fc :=
    fun hk hc => Option.some.inj (hc.symm.trans (List.mem_singleton.1 hk ▸ by decide))
  exact ⟨⟨by decide, ⟨fun k hk hc => (nomatch hfc hk hc), fun k hk hc => (nomatch hfc hk hc)⟩, fun _ _ _ => rfl⟩, rfl, eq_error_other (by decide +kernel)⟩

/-- the same key as the only part `M[8:1]` of an AHB expression -/
theorem evalAhb_needs_digit_keys :
    PartsOk (fun _ => none) (fun _ => none) (fun _ => some ⟨true, none⟩)
      [(⟨.modal, ['M'], some ['[', '8', ':', '1', ']']⟩, some (.leaf (.cond ['8', ':', '1'])))] ∧
    somePartInvalid [(⟨.modal, ['M'], some ['[', '8', ':', '1', ']']⟩, some (.leaf (.cond ['8', ':', '1'])))] = false ∧
    evalAhb (fun _ => none) (fun _ => none) (fun _ => some ⟨true, none⟩)
      [(⟨.modal, ['M'], some ['[', '8', ':', '1', ']']⟩, some (.leaf (.cond ['8', ':', '1'])))] = .error .other := by
  refine ⟨⟨nofun, fun pe hpe => ?_, fun pe hpe e he => ?_⟩, rfl, eq_error_other (by decide +kernel)⟩
  · rw [List.mem_singleton.1 hpe]; decide +kernel
  · rw [List.mem_singleton.1 hpe] at he
    cases he
    exact evalPart_needs_digit_keys.1

end Ahbicht.Properties.C16Full
