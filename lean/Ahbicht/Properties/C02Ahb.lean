import Ahbicht.Properties.C09Split
/-!
# C02 (AHB expressions) — the AHB scanner accepts nothing but the documented shape

The converse of `C09_split_modal` / `C09_split_prefix` (C09Split.lean).
-/
namespace Ahbicht.Properties.C02Ahb
open Ahbicht Generated Ahbicht.Properties.C09Split

def partText (p : Part) : List Char := p.ind ++ p.cond.getD []


/-- one alternative `X(yzz)?` of `MODAL_MARK`, for any letter classes -/
theorem mark_alt {a b d : List (Nat × Nat)} {c : Char} {cs mm rest : List Char}
    (h : (if matches3 a b d cs = true then some (c :: cs.take 3, cs.drop 3) else some ([c], cs)) = some (mm, rest))
    {P : List Char → Prop} (short : P [c])
    (long : ∀ x y z, inRanges a x = true → inRanges b y = true → inRanges d z = true → P [c, x, y, z]) :
    c :: cs = mm ++ rest ∧ P mm := by
  rcases ite_some h with ⟨h3, h⟩ | ⟨-, h⟩ <;> cases h
  · match cs, h3 with
    | x :: y :: z :: t, h3 =>
      simp only [matches3, Bool.and_eq_true] at h3
      exact ⟨rfl, long x y z h3.1.1 h3.1.2 h3.2⟩
  · exact ⟨rfl, short⟩

theorem modalMark_sound {cs mm rest : List Char} (h : modalMark cs = some (mm, rest)) :
    cs = mm ++ rest ∧ SpellMark mm := by
  cases cs with
  | nil => simp [modalMark] at h
  | cons c cs =>
    simp only [modalMark] at h
    rcases ite_some h with ⟨hM, h⟩ | ⟨-, h⟩
    · exact mark_alt h (.m c hM) fun x y z => .muss c x y z hM
    rcases ite_some h with ⟨hS, h⟩ | ⟨-, h⟩
    · exact mark_alt h (.s c hS) fun x y z => .soll c x y z hS
    rcases ite_some h with ⟨hK, h⟩ | ⟨-, h⟩
    · exact mark_alt h (.k c hK) fun x y z => .kann c x y z hK
    cases h

theorem condExpr_sound {cs ce rest : List Char} (h : condExpr cs = some (ce, rest)) :
    cs = ce ++ rest ∧ ce ≠ [] ∧ ∀ ch ∈ ce, isAhbCondChar ch = true := by
  simp only [condExpr] at h
  rcases ite_some h with ⟨-, h⟩ | ⟨-, h⟩
  · cases h
  rcases ite_some h with ⟨-, h⟩ | ⟨hne, h⟩
  · cases h
  cases h
  exact ⟨(List.takeWhile_append_dropWhile ..).symm, by simpa using hne, List.all_eq_true.1 List.all_takeWhile⟩

/-- what `C02_ahb_sound` says of one modal-mark part -/
def PartOk (p : Part) : Prop :=
  p.kind = .modal ∧ SpellMark p.ind ∧ ∀ c, p.cond = some c → c ≠ [] ∧ ∀ ch ∈ c, isAhbCondChar ch = true

theorem PartOk.mk' {mm ce : List Char} (hm : SpellMark mm) (hne : ce ≠ []) (hch : ∀ ch ∈ ce, isAhbCondChar ch = true) :
    PartOk ⟨.modal, mm, some ce⟩ :=
  ⟨rfl, hm, fun _ hc => by cases hc; exact ⟨hne, hch⟩⟩

/-- The rounds that succeed: `case3` ends after a mark, `case5` after a mark and its condition text, `case6` goes on. -/
theorem scanModal_sound (fuel : Nat) (cs : List Char) (ps : List Part) (h : scanModal fuel cs = some ps) :
    cs = ps.flatMap partText ∧ ps ≠ [] ∧ ∀ p ∈ ps, PartOk p := by
  fun_induction scanModal fuel cs generalizing ps
  case case3 mm rest hmm hre =>
    cases h
    obtain ⟨rfl, hsp⟩ := modalMark_sound hmm
    obtain rfl := List.isEmpty_iff.1 hre
    exact ⟨by simp [partText], nofun, List.forall_mem_singleton.2 ⟨rfl, hsp, nofun⟩⟩
  case case5 mm rest hmm _ ce rest' hce hre =>
    cases h
    obtain ⟨rfl, hsp⟩ := modalMark_sound hmm
    obtain ⟨rfl, hne, hch⟩ := condExpr_sound hce
    obtain rfl := List.isEmpty_iff.1 hre
    exact ⟨by simp [partText], nofun, List.forall_mem_singleton.2 (.mk' hsp hne hch)⟩
  case case6 mm rest hmm _ ce rest' hce _ ih =>
    obtain ⟨qs, hrec, rfl⟩ := Option.map_eq_some_iff.1 h
    obtain ⟨rfl, hsp⟩ := modalMark_sound hmm
    obtain ⟨rfl, hne, hch⟩ := condExpr_sound hce
    obtain ⟨rfl, -, hqs⟩ := ih _ hrec
    exact ⟨by simp [partText], nofun, List.forall_mem_cons.2 ⟨.mk' hsp hne hch, hqs⟩⟩
  all_goals cases h

/-- **C02 (AHB shape, soundness).** What the AHB scanner accepts is of the documented shape — one prefix-operator part, or modal-mark
parts of which only the last may be bare, every condition text non-empty and of the `CONDITION_EXPRESSION` class — and the parts
spell the input. -/
theorem C02_ahb_sound (cs : List Char) (ps : List Part) (h : scanAhb cs = some ps) :
    cs = ps.flatMap partText ∧ ps ≠ [] ∧
    ((∃ c cond, ps = [⟨.prefix_, [c], cond⟩] ∧ isPrefixOp c = true) ∨
     ((∀ p ∈ ps, p.kind = .modal ∧ SpellMark p.ind) ∧ (∀ p ∈ ps.dropLast, p.cond.isSome = true))) ∧
    (∀ p ∈ ps, ∀ c, p.cond = some c → c ≠ [] ∧ ∀ ch ∈ c, isAhbCondChar ch = true) := by
  cases cs with
  | nil => simp [scanAhb] at h
  | cons c rest =>
    simp only [scanAhb] at h
    rcases ite_some h with ⟨hp, h⟩ | ⟨-, h⟩
    · rcases ite_some h with ⟨hre, h⟩ | ⟨-, h⟩
      · cases h
        obtain rfl : rest = [] := by simpa using hre
        exact ⟨by simp [partText], by simp, .inl ⟨c, none, rfl, hp⟩, List.forall_mem_singleton.2 nofun⟩
      · split at h
        · rename_i ce hce
          cases h
          obtain ⟨rfl, hne, hch⟩ := condExpr_sound hce
          exact ⟨by simp [partText], by simp, .inl ⟨c, some ce, rfl, hp⟩,
            List.forall_mem_singleton.2 fun _ h => by cases h; exact ⟨hne, hch⟩⟩
        · cases h
    · split at h
      · rename_i qs hsm
        rcases ite_some h with ⟨hall, h⟩ | ⟨-, h⟩
        · cases h
          obtain ⟨i1, i2, i3⟩ := scanModal_sound _ _ _ hsm
          exact ⟨i1, i2, .inr ⟨fun p hp => ⟨(i3 p hp).1, (i3 p hp).2.1⟩, List.all_eq_true.mp hall⟩,
            fun p hp => (i3 p hp).2.2⟩
        · cases h
      · cases h

/-- in particular no leading whitespace and no bare condition expression -/
theorem C02_ahb_first_char (c : Char) (rest : List Char) (ps : List Part) (h : scanAhb (c :: rest) = some ps) :
    isPrefixOp c = true ∨ inRanges cc_mm_up_M c = true ∨ inRanges cc_mm_up_S c = true ∨ inRanges cc_mm_up_K c = true := by
  obtain ⟨hcs, hne, hshape, -⟩ := C02_ahb_sound _ _ h
  rcases hshape with ⟨c', cond, rfl, hc'⟩ | ⟨hm, -⟩
  · cases hcs; exact .inl hc'
  · obtain ⟨p, ps', rfl⟩ := List.exists_cons_of_ne_nil hne
    obtain ⟨ch, tl, hind, hst⟩ := spellMark_start (hm p (by simp)).2
    simp only [List.flatMap_cons, partText, hind, List.cons_append, List.cons.injEq] at hcs
    exact .inr (hcs.1 ▸ hst)

end Ahbicht.Properties.C02Ahb

