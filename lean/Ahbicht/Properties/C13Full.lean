import Ahbicht.Properties.C13
import Ahbicht.Lemmas.Full
/-!
# C13 end to end — the theorems of C13 for the model that starts from the expression texts

Only order and completeness are restated, and under the bridge's hypothesis: `nodeRes` succeeds on ALL texts of the AHB, also those
the walk never evaluates.
-/
namespace Ahbicht.Properties.C13Full
open Ahbicht Ahbicht.Properties.C13

def discDET : DataElementT → String
  | .free d _ _ _ => d
  | .pool d _ _ => d

def discsSegT (s : SegmentT) : List String := s.disc :: s.des.map discDET

mutual
def discsGroupT : GroupT → List String
  | .mk d _ gs ss => d :: (discsGroupsT gs ++ ss.flatMap discsSegT)
def discsGroupsT : GroupsT → List String
  | .nil => []
  | .cons g gs => discsGroupT g ++ discsGroupsT gs
end

theorem discDE_eval (f : EvT) (de : DataElementT) : discDE (de.eval f) = discDET de := by
  cases de <;> rfl

theorem discsSeg_eval (f : EvT) (s : SegmentT) : discsSeg (s.eval f) = discsSegT s := by
  simp [discsSeg, discsSegT, SegmentT.eval, List.map_map, Function.comp_def, discDE_eval]

mutual
theorem discsGroup_eval (f : EvT) : ∀ g : GroupT, discsGroup (g.eval f) = discsGroupT g
  | .mk d e gs ss => by
    simp [GroupT.eval, discsGroup, discsGroupT, discsGroups_eval f gs, List.flatMap_map, discsSeg_eval]
theorem discsGroups_eval (f : EvT) : ∀ gs : GroupsT, discsGroups (gs.eval f) = discsGroupsT gs
  | .nil => rfl
  | .cons g gs => by simp [GroupsT.eval, discsGroups, discsGroupsT, discsGroup_eval f g, discsGroups_eval f gs]
end

/-- **C13 (bridge).** Same statement as `validateAhbFull_eq` (Lemmas/Full.lean). -/
theorem C13_full_bridge (cer : Cer) (lines : GroupsT) (soll : Bool) (f : EvT)
    (h : ∀ t ∈ lines.texts, ∀ i, nodeRes cer t = .ok (f t i)) :
    validateAhbFull cer lines soll = validateAhb (lines.eval f) soll :=
  validateAhbFull_eq cer lines soll f h

/-- **C13 end to end (order; nothing missing).** `C13_order` and `C13_complete` for the walk from the expression texts. -/
theorem C13_full_order (cer : Cer) (lines : GroupsT) (soll : Bool) (f : EvT) (outs : List Out)
    (hev : ∀ t ∈ lines.texts, ∀ i, nodeRes cer t = .ok (f t i))
    (h : validateAhbFull cer lines soll = .ok outs) : (outs.map (·.disc)).Sublist (discsGroupsT lines) := by
  rw [validateAhbFull_eq cer lines soll f hev] at h
  rw [← discsGroups_eval f lines]
  exact C13_order _ none soll outs h

theorem C13_full_complete (cer : Cer) (lines : GroupsT) (soll : Bool) (f : EvT) (outs : List Out)
    (hev : ∀ t ∈ lines.texts, ∀ i, nodeRes cer t = .ok (f t i))
    (h : validateAhbFull cer lines soll = .ok outs)
    (hnf : ∀ o ∈ outs, o.isDataElement = false → o.status ≠ .IS_FORBIDDEN) : outs.map (·.disc) = discsGroupsT lines := by
  rw [validateAhbFull_eq cer lines soll f hev] at h
  rw [← discsGroups_eval f lines]
  exact C13_complete _ none soll outs h hnf

/-- **C13 end to end (laziness).** Below a forbidden parent the expression is not evaluated: even a failing one cannot disturb the run. -/
theorem C13_full_forbidden_not_evaluated (ev : Ev) (expr : List Char) (soll : Bool) :
    segLevelT ev expr (some .IS_FORBIDDEN) soll = .ok (.IS_FORBIDDEN, none) :=
  if_pos rfl

/-- non-vacuity: a two-node AHB whose expressions the evaluator handles -/
def exCer : Cer := ⟨fun k => if k = "1".toList then some .F else none, fun _ => none, fun _ => none, fun _ => none⟩

example :
    (validateAhbFull exCer (.cons (.mk "SG1" "Muss [1]".toList .nil [⟨"S", "Kann".toList, []⟩]) .nil) true).toOption.map (·.map (fun o => (o.disc, o.status)))
      = some [("SG1", .IS_REQUIRED), ("S", .IS_OPTIONAL)] := by
  decide +kernel

end Ahbicht.Properties.C13Full
