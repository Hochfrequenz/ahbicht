import Ahbicht.Lemmas.Context
import Ahbicht.Properties.C04
/-!
# C05 — hints, format constraints, brackets, operand order never change the requirement

Each theorem: the transformed expression is again in the domain and valid and has the same `denote` under every assignment; hence
(`same_outcome`) the same reported outcome, given `Assigns` for the new expression as well (a text for an added hint key).
-/
namespace Ahbicht.Properties.C05
open Ahbicht

theorem same_outcome {rcEnv : List Char → Option CFV} {hintEnv : List Char → Option String} {t t' : Expr}
    (hwf : WF t = true) (hv : invalidAt t = false) (ha : Assigns rcEnv hintEnv t)
    (hwf' : WF t' = true) (hv' : invalidAt t' = false) (ha' : Assigns rcEnv hintEnv t')
    (hden : denote rcEnv t' = denote rcEnv t) :
    ∃ r r', rcEvaluation rcEnv hintEnv t = .ok r ∧ rcEvaluation rcEnv hintEnv t' = .ok r' ∧
      r'.fulfilled = r.fulfilled ∧ r'.conditional = r.conditional := by
  obtain ⟨r, hr, ho⟩ := C04.C04_outcome hwf hv ha
  obtain ⟨r', hr', ho'⟩ := C04.C04_outcome hwf' hv' ha'
  rw [hden, ← ho] at ho'
  exact ⟨r, r', hr, hr', congrArg Prod.fst ho', congrArg Prod.snd ho'⟩

theorem preserves {t t' : Expr} (den : ∀ env, denote env t' = denote env t) (wf : WF t' = WF t)
    (inv : invalidAt t' = true → invalidAt t = true) (hwf : WF t = true) (hv : invalidAt t = false) :
    WF t' = true ∧ invalidAt t' = false ∧ ∀ env, denote env t' = denote env t :=
  ⟨wf.trans hwf, Bool.eq_false_iff.2 fun hi => Bool.false_ne_true (hv.symm.trans (inv hi)), den⟩

theorem rel_preserves {t t' : Expr} (h : Rel t t') (hwf : WF t = true) (hv : invalidAt t = false) :
    WF t' = true ∧ invalidAt t' = false ∧ ∀ env, denote env t' = denote env t :=
  preserves h.den h.wf h.inv hwf hv

/-- **C05 (operand order).** Swapping the operands of a U/O/X node anywhere; validity in both directions. -/
theorem C05_swap (c : Ctx) {o : Op} (ho : o ≠ .then_) (l r : Expr) :
    let t := c.fill (.bin o l r); let t' := c.fill (.bin o r l)
    WF t' = WF t ∧ invalidAt t' = invalidAt t ∧ ∀ env, denote env t' = denote env t := by
  intro t t'
  have h1 : Rel t t' := (swap_rel ho l r).fill c
  have h2 : Rel t' t := (swap_rel ho r l).fill c
  exact ⟨h1.wf, Bool.eq_iff_iff.2 ⟨h1.inv, h2.inv⟩, h1.den⟩

theorem and_hint_weak_right {s h : Expr} (hh : h.isHintLeaf = true) : Weak s (.bin .and_ s h) := by
  obtain ⟨k, rfl, hk⟩ := isHintLeaf_iff.1 hh
  constructor
  · intro env; simp [denote, hk, CFV.and_N]
  · simp [neutralOnly, hk]
  · rfl
  · rfl
  · simp [WF, hk]
  · intro hi; simpa [invalidAt] using hi

/-- the hint goes on either side: `s U h` or `h U s` -/
inductive AndHint (s h : Expr) : Expr → Prop
  | right : AndHint s h (.bin .and_ s h)
  | left : AndHint s h (.bin .and_ h s)

theorem AndHint.weak {s h s' : Expr} (hs : AndHint s h s') (hh : h.isHintLeaf = true) : Weak s s' := by
  cases hs
  · exact and_hint_weak_right hh
  · exact (and_hint_weak_right hh).trans_rel (swap_rel (by decide) s h)

/-- **C05 (hint).** And-ing a hint key onto the whole expression, or (the next two) onto an operand of a U/O/X node anywhere. -/
theorem C05_and_hint_root {t h t' : Expr} (hs : AndHint t h t') (hh : h.isHintLeaf = true) (hwh : WF h = true)
    (hwf : WF t = true) (hv : invalidAt t = false) :
    WF t' = true ∧ invalidAt t' = false ∧ ∀ env, denote env t' = denote env t := by
  have w := hs.weak hh
  exact preserves w.den w.wf w.inv hwf hv

theorem C05_and_hint_left_operand (c : Ctx) {o : Op} (ho : o ≠ .then_) {s h s' : Expr} (r : Expr)
    (hs : AndHint s h s') (hh : h.isHintLeaf = true) (hwh : WF h = true)
    (hwf : WF (c.fill (.bin o s r)) = true) (hv : invalidAt (c.fill (.bin o s r)) = false) :
    WF (c.fill (.bin o s' r)) = true ∧ invalidAt (c.fill (.bin o s' r)) = false ∧
      ∀ env, denote env (c.fill (.bin o s' r)) = denote env (c.fill (.bin o s r)) :=
  rel_preserves (((hs.weak hh).frameL ho r).fill c) hwf hv

theorem C05_and_hint_right_operand (c : Ctx) {o : Op} (ho : o ≠ .then_) {s h s' : Expr} (l : Expr)
    (hs : AndHint s h s') (hh : h.isHintLeaf = true) (hwh : WF h = true)
    (hwf : WF (c.fill (.bin o l s)) = true) (hv : invalidAt (c.fill (.bin o l s)) = false) :
    WF (c.fill (.bin o l s')) = true ∧ invalidAt (c.fill (.bin o l s')) = false ∧
      ∀ env, denote env (c.fill (.bin o l s')) = denote env (c.fill (.bin o l s)) :=
  rel_preserves (((hs.weak hh).frameR ho l).fill c) hwf hv

theorem attach_fc_rel {s f : Expr} (hf : f.isFcLeaf = true) (hs : neutralOnly s = false) :
    Rel s (.bin .then_ s f) := by
  have sfc : s.isFcLeaf = false := Bool.eq_false_iff.2 fun h => Bool.false_ne_true (hs.symm.trans (fcLeaf_not_hint h).2)
  have shl : s.isHintLeaf = false := Bool.eq_false_iff.2 fun h => Bool.false_ne_true (hs.symm.trans (hintLeaf_neutral h))
  obtain ⟨k, rfl, hk⟩ := isFcLeaf_iff.1 hf
  constructor
  · intro env; simp [denote, sfc]
  · simp [neutralOnly, hs]
  · rw [sfc]; rfl
  · rw [shl]; rfl
  · simp [WF, hk, hf, hs, sfc]
  · intro hi; simpa [invalidAt] using hi

theorem attach_fc_rel_back {s f : Expr} (hf : f.isFcLeaf = true) (hwf : WF f = true) (hs : neutralOnly s = false) :
    Rel (.bin .then_ s f) s := by
  have h := attach_fc_rel hf hs
  exact ⟨fun env => (h.den env).symm, h.neu.symm, h.fcl.symm, h.hl.symm, h.wf.symm,
    fun hi => by simp [invalidAt, hi]⟩

/-- **C05 (attached format constraint).** Attaching a format constraint to a sub-expression that holds a requirement constraint, anywhere. -/
theorem C05_attach_fc (c : Ctx) {s f : Expr} (hf : f.isFcLeaf = true) (hwff : WF f = true) (hs : neutralOnly s = false)
    (hwf : WF (c.fill s) = true) (hv : invalidAt (c.fill s) = false) :
    WF (c.fill (.bin .then_ s f)) = true ∧ invalidAt (c.fill (.bin .then_ s f)) = false ∧
      ∀ env, denote env (c.fill (.bin .then_ s f)) = denote env (c.fill s) :=
  rel_preserves ((attach_fc_rel hf hs).fill c) hwf hv

/-- `env'` keeps every entry of `env` that is not UNKNOWN (absent counts as NEUTRAL); an UNKNOWN entry may become anything -/
def RefinesEnv (env' env : List Char → Option CFV) : Prop := ∀ k, le ((env k).getD .N) ((env' k).getD .N) = true

theorem denote_mono {env env' : List Char → Option CFV} (h : RefinesEnv env' env) (t : Expr) :
    le (denote env t) (denote env' t) = true := by
  induction t with
  | leaf a =>
    cases a with
    | cond k => simp only [denote]; split <;> first | exact h k | exact CFV.le_refl _
    | pkg k r => exact CFV.le_refl _
    | time k => exact CFV.le_refl _
  | bin o l r ihl ihr =>
    cases o with
    | or_ => exact CFV.or_mono _ _ _ _ ihl ihr
    | xor_ => exact CFV.xor_mono _ _ _ _ ihl ihr
    | and_ => exact CFV.and_mono _ _ _ _ ihl ihr
    | then_ => simp only [denote]; split <;> assumption

/-- **C05 (UNKNOWN soundness).** A definite state reached while some keys are UNKNOWN is the state under every way of resolving them. -/
theorem C05_refine {env env' : List Char → Option CFV} (h : RefinesEnv env' env) (t : Expr) (hd : denote env t ≠ .K) :
    denote env' t = denote env t :=
  CFV.le_definite _ _ (denote_mono h t) hd

private def c (s : String) : Expr := .leaf (.cond s.toList)
/-- **finding K1.** Validity depends on the grouping inside a run of O where a bare hint meets a bare format constraint: the two
groupings of `[501] O [901] O ([502] U [503])`. -/
theorem C05_brackets_K1 :
    invalidAt (.bin .or_ (c "501") (.bin .or_ (c "901") (.bin .and_ (c "502") (c "503")))) = false ∧
    invalidAt (.bin .or_ (.bin .or_ (c "501") (c "901")) (.bin .and_ (c "502") (c "503"))) = true ∧
    (Expr.bin .or_ (c "501") (.bin .or_ (c "901") (.bin .and_ (c "502") (c "503")))).flat =
      (Expr.bin .or_ (.bin .or_ (c "501") (c "901")) (.bin .and_ (c "502") (c "503"))).flat :=
  ⟨by decide +kernel, by decide +kernel, by rfl⟩

/-! non-vacuity -/
example : WF (.bin .or_ (c "1") (c "2")) = true ∧ invalidAt (.bin .or_ (c "1") (c "2")) = false ∧ (c "501").isHintLeaf = true ∧
    neutralOnly (c "1") = false ∧ (c "901").isFcLeaf = true := by decide +kernel

end Ahbicht.Properties.C05
