import Ahbicht.Lemmas.CFV
import Ahbicht.Generated.Cfv
/-!
# C03 — four-valued condition logic obeys its algebraic laws and is sound for UNKNOWN

Stated about the tables extracted from the running code (the complete graphs of `__and__`, `__or__`, `__xor__`).
Each table is compared once with the specified operator (`*_eq_spec`); the laws are those of the specification
(`Lemmas/CFV`), carried over by `look_*`.
-/
namespace Ahbicht.Properties.C03
open Ahbicht CFV Generated

/-- the extracted operator: `none` if the code raised or the entry is missing -/
def look (t : List (CFV × CFV × CFV)) (a b : CFV) : Option CFV :=
  (t.find? (fun e => e.1 == a && e.2.1 == b)).map (·.2.2)

abbrev implAnd := look andTable
abbrev implOr  := look orTable
abbrev implXor := look xorTable

def comp (t : List (CFV × CFV × CFV)) (x : Option CFV) (y : Option CFV) : Option CFV :=
  x.bind fun a => y.bind fun b => look t a b

theorem and_eq_spec : ∀ a b, implAnd a b = some (CFV.and a b) := by decide +kernel
theorem or_eq_spec  : ∀ a b, implOr a b = some (CFV.or a b) := by decide +kernel
theorem xor_eq_spec : ∀ a b, implXor a b = some (CFV.xor a b) := by decide +kernel

/-- no duplicate / contradictory entries were extracted -/
theorem tables_functional :
    (andTable.map fun e => (e.1, e.2.1)).Nodup ∧ (orTable.map fun e => (e.1, e.2.1)).Nodup ∧
    (xorTable.map fun e => (e.1, e.2.1)).Nodup := by decide +kernel

section graph
variable {t : List (CFV × CFV × CFV)} {f : CFV → CFV → CFV} (h : ∀ a b, look t a b = some (f a b))
include h

theorem look_total (a b : CFV) : (look t a b).isSome := by rw [h]; rfl

theorem look_comm (hf : ∀ a b, f a b = f b a) (a b : CFV) : look t a b = look t b a := by rw [h, h, hf]

theorem look_assoc (hf : ∀ a b c, f (f a b) c = f a (f b c)) (a b c : CFV) :
    comp t (look t a b) (some c) = comp t (some a) (look t b c) := by
  rw [h a b, h b c]; show look t _ _ = look t _ _; rw [h, h, hf]

theorem look_neutral (hl : ∀ a, f a N = a) (hr : ∀ a, f N a = a) (a : CFV) : look t a N = some a ∧ look t N a = some a := by
  rw [h, h, hl, hr]; exact ⟨rfl, rfl⟩

end graph

theorem and_total : ∀ a b, (implAnd a b).isSome := look_total and_eq_spec
theorem or_total  : ∀ a b, (implOr a b).isSome := look_total or_eq_spec
theorem xor_total : ∀ a b, (implXor a b).isSome := look_total xor_eq_spec

theorem and_comm : ∀ a b, implAnd a b = implAnd b a := look_comm and_eq_spec CFV.and_comm
theorem or_comm  : ∀ a b, implOr a b = implOr b a := look_comm or_eq_spec CFV.or_comm
theorem xor_comm : ∀ a b, implXor a b = implXor b a := look_comm xor_eq_spec CFV.xor_comm

theorem and_assoc : ∀ a b c, comp andTable (implAnd a b) (some c) = comp andTable (some a) (implAnd b c) :=
  look_assoc and_eq_spec CFV.and_assoc
theorem or_assoc  : ∀ a b c, comp orTable (implOr a b) (some c) = comp orTable (some a) (implOr b c) :=
  look_assoc or_eq_spec CFV.or_assoc
theorem xor_assoc : ∀ a b c, comp xorTable (implXor a b) (some c) = comp xorTable (some a) (implXor b c) :=
  look_assoc xor_eq_spec CFV.xor_assoc

theorem and_neutral : ∀ a, implAnd a N = some a ∧ implAnd N a = some a := look_neutral and_eq_spec CFV.and_N CFV.N_and
theorem or_neutral  : ∀ a, implOr a N = some a ∧ implOr N a = some a := look_neutral or_eq_spec CFV.or_N CFV.N_or
theorem xor_neutral : ∀ a, implXor a N = some a ∧ implXor N a = some a := look_neutral xor_eq_spec CFV.xor_N CFV.N_xor

theorem and_boolean : ∀ x y : Bool, implAnd (ofBool x) (ofBool y) = some (ofBool (x && y)) := by
  intro x y; rw [and_eq_spec, CFV.and_ofBool]
theorem or_boolean  : ∀ x y : Bool, implOr (ofBool x) (ofBool y) = some (ofBool (x || y)) := by
  intro x y; rw [or_eq_spec, CFV.or_ofBool]
theorem xor_boolean : ∀ x y : Bool, implXor (ofBool x) (ofBool y) = some (ofBool (x != y)) := by
  intro x y; rw [xor_eq_spec, CFV.xor_ofBool]

/-! README rows that give a value ("does not make sense" rows: C06) -/
def rowsAgree (t : List (CFV × CFV × CFV)) (rows : List (CFV × CFV × Option CFV)) : Bool :=
  rows.all fun r => match r.2.2 with
    | some v => look t r.1 r.2.1 == some v && look t r.2.1 r.1 == some v
    | none => true

theorem readme_and : rowsAgree andTable readmeAnd = true := by decide +kernel
theorem readme_or  : rowsAgree orTable readmeOr = true := by decide +kernel
theorem readme_xor : rowsAgree xorTable readmeXor = true := by decide +kernel
/-- guards against a silently empty extraction of the README tables -/
theorem readme_rows_present : readmeAnd.length = 7 ∧ readmeOr.length = 7 ∧ readmeXor.length = 7 := by decide +kernel

/-! UNKNOWN is sound: a definite result survives every resolution of UNKNOWN operands -/
def Sound (t : List (CFV × CFV × CFV)) : Prop :=
  ∀ a b, look t a b ≠ some K → ∀ a' b', Refines a' a → Refines b' b → look t a' b' = look t a b

/-- resolving operands moves the result up in the information order (`C05.le`), and a definite result has nothing above it -/
theorem sound_of_mono {t : List (CFV × CFV × CFV)} {f : CFV → CFV → CFV} (h : ∀ a b, look t a b = some (f a b))
    (hm : ∀ a a' b b', C05.le a a' = true → C05.le b b' = true → C05.le (f a b) (f a' b') = true) : Sound t := by
  intro a b hK a' b' ha hb
  rw [h, h] at *
  exact congrArg some (le_definite _ _ (hm _ _ _ _ (le_of_refines _ _ ha) (le_of_refines _ _ hb)) (fun e => hK (congrArg some e)))

theorem and_unknown_sound : Sound andTable := sound_of_mono and_eq_spec and_mono
theorem or_unknown_sound  : Sound orTable := sound_of_mono or_eq_spec or_mono
theorem xor_unknown_sound : Sound xorTable := sound_of_mono xor_eq_spec xor_mono

/-! UNKNOWN is tight: the result is UNKNOWN only if two resolutions disagree -/
def Tight (t : List (CFV × CFV × CFV)) : Prop :=
  ∀ a b, look t a b = some K →
    ∃ a₁ b₁ a₂ b₂, Refines a₁ a ∧ Refines b₁ b ∧ Refines a₂ a ∧ Refines b₂ b ∧ look t a₁ b₁ ≠ look t a₂ b₂

theorem and_unknown_tight : Tight andTable := by simp only [Tight, and_eq_spec]; decide +kernel
theorem or_unknown_tight  : Tight orTable := by simp only [Tight, or_eq_spec]; decide +kernel
theorem xor_unknown_tight : Tight xorTable := by simp only [Tight, xor_eq_spec]; decide +kernel

/-! non-vacuity: concrete cells meet the premises of soundness / tightness -/
example : look orTable K F ≠ some K ∧ Refines U K ∧ Refines F F := by decide +kernel
example : look andTable K F = some K := by decide +kernel

end Ahbicht.Properties.C03
