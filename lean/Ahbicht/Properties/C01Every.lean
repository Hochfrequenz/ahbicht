import Ahbicht.Properties.C01
/-!
# C01 (every input) — nothing parses "by accident"

With `C01_precedence` / `C01_unambiguous`: the result of parsing is the tree the documented precedence rules prescribe for the input.
-/
namespace Ahbicht.Properties.C01Every
open Ahbicht Ahbicht.Properties.C01

/-- what a chain spells: the first item, then per `(separator, item)` the separator's tokens and the item's -/
inductive CT : Expr → List (Op × Expr) → List Tok → Prop
  | one {e w} : Written 4 e w → CT e [] w
  | cons {e w s x t ws} : Written 4 e w → CT x t ws → CT e ((s, x) :: t) (w ++ sepToks s ++ ws)

theorem CT.append {e t w} (h : CT e t w) (o : Op) {x t' w'} (h' : CT x t' w') :
    CT e (t ++ (o, x) :: t') (w ++ sepToks o ++ w') := by
  induction h with
  | one hw => exact CT.cons hw h'
  | cons hw _ ih => simpa [List.append_assoc] using CT.cons hw ih

theorem CT.join_inv {o : Op} {cr : Chain} {tl : List (Op × Expr)} {e : Expr} {w : List Tok}
    (h : CT e (tl ++ (o, cr.1) :: cr.2) w) : ∃ wl wr, w = wl ++ sepToks o ++ wr ∧ CT e tl wl ∧ CT cr.1 cr.2 wr := by
  induction tl generalizing e w with
  | nil =>
    cases h with
    | cons hw hr => exact ⟨_, _, rfl, .one hw, hr⟩
  | cons p tl ih =>
    cases h with
    | cons hw hr =>
      obtain ⟨wl, wr, rfl, hl, hr⟩ := ih hr
      exact ⟨_, wr, by simp [List.append_assoc], .cons hw hl, hr⟩

/-- precedence level at which the result of `asm os` is written -/
def lvl : List Op → Nat
  | [] => 4
  | o :: _ => o.prec

def okLevels : List Op → Prop
  | [] => True
  | o :: os => o.prec ≤ lvl os ∧ okLevels os

theorem asm_written : ∀ (os : List Op) (c : Chain), okLevels os → ∀ {w}, CT c.1 c.2 w → (∀ s ∈ c.2, s.1 ∈ os) →
    Written (lvl os) (asm os c) w := by
  apply asm_induct
  · intro ⟨e, t⟩ _ w hc hin
    cases hc with
    | one hw => exact hw
    | cons _ _ => exact absurd (hin _ (List.mem_cons_self ..)) (by simp)
  · intro o os c hno ih hok w hc hin
    rw [asm_skip _ _ _ hno]
    exact .weaken hok.1 (ih hok.2 hc fun s hs => (List.mem_cons.1 (hin s hs)).resolve_left (hno s hs))
  · intro o os cl cr hno ihl ihr hok w hc hin
    obtain ⟨wl, wr, rfl, hl, hr⟩ := CT.join_inv hc
    obtain ⟨hinl, hinr⟩ := List.forall_mem_append.1 hin
    rw [asm_snoc _ _ _ _ hno]
    exact .bin o (ihl hok hl hinl)
      (.weaken hok.1 (ihr hok.2 hr fun s hs => (List.mem_cons.1 (hinr s (.tail _ hs))).resolve_left (hno s hs)))

theorem build_written {c : Chain} {w} (hc : CT c.1 c.2 w) : Written 0 (build c) w :=
  asm_written levels c (by simp [okLevels, levels, lvl, Op.prec]) hc (fun s _ => by cases s.1 <;> simp [levels])

theorem sepToks_toOp (o : Op3) : sepToks o.toOp = [.op o] := by cases o <;> rfl

theorem chains_ct {c : Chain} {ts : List Tok} (h : Chains c ts) : CT c.1 c.2 ts := by
  induction h with
  | atom a => exact .one (.atom a)
  | paren _ ih => exact .one (.paren (build_written ih))
  | binop o _ _ ihl ihr => simpa [join, sepToks_toOp] using ihl.append o.toOp ihr
  | juxt _ _ ihl ihr => simpa [join, sepToks] using ihl.append .then_ ihr

theorem parse_written {ts : List Tok} {e : Expr} (h : parseToks ts = some e) : Written 0 e ts := by
  obtain ⟨c, hc, rfl⟩ := parseToks_iff.1 h
  exact build_written (chains_ct hc)

/-- **C01 (every accepted input).** Whatever the parser accepts is a writing, by the documented grammar, of its result. -/
theorem C01_every_input (ts : List Tok) (e : Expr) (h : parseToks ts = some e) :
    ∃ e', Written 0 e' ts ∧ e'.flat = e.flat := by
  exact ⟨e, parse_written h, rfl⟩

/-- the parse result is determined, up to same-operator grouping, by any documented reading of the input -/
theorem C01_result_is_documented_reading (ts : List Tok) (e e' : Expr) (p : Nat) (h : parseToks ts = some e) (hw : Written p e' ts) :
    e.flat = e'.flat :=
  C01_unambiguous (parse_written h) hw

end Ahbicht.Properties.C01Every

