import Ahbicht.Lemmas.Tasks
/-!
# C12 — results do not depend on the completion order of asynchronous evaluators

The bookkeeping ahbicht adds on top of `asyncio.gather`, piece by piece: each gives position `i` (key `k`, occurrence `i`) its own result.
-/
namespace Ahbicht.Properties.C12
open Ahbicht

/-- a loop invariant that may speak of the consumed prefix -/
theorem foldl_prefix_inv {α β : Type} (f : β → α → β) (I : List α → β → Prop) (l suf pre : List α) (b : β) (h : l = pre ++ suf)
    (hb : I pre b) (hstep : ∀ pre x suf b, l = pre ++ x :: suf → I pre b → I (pre ++ [x]) (f b x)) : I l (suf.foldl f b) := by
  induction suf generalizing pre b with
  | nil => rw [h, List.append_nil]; exact hb
  | cons x suf ih => exact ih (pre ++ [x]) (f b x) (by rw [h, List.append_assoc]; rfl) (hstep pre x suf b h hb)

/-- **gather.** In whatever order the awaitables complete, slot `i` holds the value of awaitable `i`. -/
theorem C12_gather_slots {α : Type} (vals : List α) (order : List Nat) (hall : ∀ i, i < vals.length → i ∈ order) :
    runGather vals order = vals.map some := by
  -- what has been written is right
  have key : (runGather vals order).length = vals.length ∧
      ∀ j ∈ order, j < vals.length → (runGather vals order)[j]? = some vals[j]? :=
    foldl_prefix_inv _ (fun (done : List Nat) (slots : List (Option α)) => slots.length = vals.length ∧ ∀ j ∈ done, j < vals.length → slots[j]? = some vals[j]?)
      order order [] _ rfl ⟨by simp, fun _ hj => nomatch hj⟩ ?_
  · apply List.ext_getElem?
    intro j
    by_cases hj : j < vals.length
    · exact (key.2 j (hall j hj) hj).trans (by simp [List.getElem?_eq_getElem hj])
    · rw [List.getElem?_eq_none (by rw [key.1]; omega), List.getElem?_eq_none (by simpa using hj)]
  · intro done i _ slots _ ⟨hlen, h⟩
    cases hv : vals[i]? with
    | none =>
      refine ⟨hlen, fun j hm hj => h j ((List.mem_append.1 hm).resolve_right fun e => ?_) hj⟩
      rw [← List.mem_singleton.1 e, List.getElem?_eq_getElem hj] at hv; cases hv
    | some v =>
      refine ⟨by simpa using hlen, fun j hm hj => ?_⟩
      by_cases hji : j = i
      · subst hji
        rw [hv, List.getElem?_set_self (hlen ▸ hj)]
      · rw [List.getElem?_set_ne (Ne.symm hji)]
        exact h j ((List.mem_append.1 hm).resolve_right fun e => hji (List.mem_singleton.1 e)) hj

theorem contains_awaitableIndexesOf {α : Type} (pre : List (MaybeAwaitable α)) (x : MaybeAwaitable α) (rest : List (MaybeAwaitable α)) :
    (awaitableIndexesOf (pre ++ x :: rest)).contains pre.length = x.isAwaitable := by
  unfold awaitableIndexesOf
  rw [Bool.eq_iff_iff]
  simp [List.mem_filter, List.mem_range]

theorem awaitedOf_append {α : Type} (a b : List (MaybeAwaitable α)) : awaitedOf (a ++ b) = awaitedOf a ++ awaitedOf b := by
  unfold awaitedOf; simp

/-- **gather_if_necessary.** Each position gets its plain result or its own awaited result. -/
theorem C12_gather_if_necessary {α : Type} (items : List (MaybeAwaitable α)) :
    gatherIfNecessary items = items.map MaybeAwaitable.value := by
  -- after the prefix `pre`: its values, its length, the number of awaitables in it
  refine congrArg Prod.fst (foldl_prefix_inv _
    (fun pre acc => acc = (pre.map MaybeAwaitable.value, pre.length, (awaitedOf pre).length)) items items [] _ rfl rfl ?_)
  rintro pre x rest _ h rfl
  have hc := contains_awaitableIndexesOf pre x rest
  rw [← h] at hc
  cases x with
  | result v =>
    simp only [hc, MaybeAwaitable.isAwaitable, Bool.false_eq_true, if_false]
    simp [awaitedOf, MaybeAwaitable.value]
  | awaitable v =>
    have hget : (awaitedOf items)[(awaitedOf pre).length]? = some v := by
      rw [h, awaitedOf_append]; simp [awaitedOf]
    simp only [hc, hget, MaybeAwaitable.isAwaitable, if_true]
    simp [awaitedOf, MaybeAwaitable.value]

theorem dictLookup_graph {κ α : Type} [DecidableEq κ] (keys : List κ) (f : κ → α) (k : κ) :
    dictLookup (keys.map fun a => (a, f a)) k = if k ∈ keys then some (f k) else none := by
  unfold dictLookup
  rw [← List.map_reverse, List.find?_map]
  cases hf : List.find? ((fun x => decide (x.1 = k)) ∘ fun a => (a, f a)) keys.reverse with
  | none =>
    have : k ∉ keys := fun hk => by simpa using List.find?_eq_none.1 hf k (List.mem_reverse.2 hk)
    simp [this]
  | some a =>
    have := List.find?_some hf
    have hm := List.mem_reverse.1 (List.mem_of_find?_eq_some hf)
    simp at this
    subst this
    simp [hm]

/-- **dict(zip(keys, results)).** Every key gets the value produced for it, also with repeated keys. -/
theorem C12_zip_dict {κ α : Type} [DecidableEq κ] (keys : List κ) (f : κ → α) (k : κ) (hk : k ∈ keys) :
    dictLookup (keys.zip (keys.map f)) k = some (f k) := by
  rw [← List.map_prod_left_eq_zip, dictLookup_graph, if_pos hk]

/-- per key, for every completion order: gather, then zip -/
theorem C12_keys {κ α : Type} [DecidableEq κ] (keys : List κ) (f : κ → α) (order : List Nat)
    (hall : ∀ i, i < keys.length → i ∈ order) (k : κ) (hk : k ∈ keys) :
    dictLookup (keys.zip ((runGather (keys.map f) order).filterMap id)) k = some (f k) := by
  rw [C12_gather_slots (keys.map f) order (by simpa using hall), List.filterMap_map, Function.id_comp, List.filterMap_some]
  exact C12_zip_dict keys f k hk

/-- both `cons` clauses of `substHolesF` as one function of the child -/
def substChild (res : Nat → PTree) : PTree → PTree
  | .hole i => res i
  | t => substHoles res t

theorem substHolesF_cons (res : Nat → PTree) (t : PTree) (rest : PForest) :
    substHolesF res (.cons t rest) = .cons (substChild res t) (substHolesF res rest) := by
  cases t <;> rfl

def only (ids : List Nat) (res : Nat → PTree) (i : Nat) : PTree := if i ∈ ids then res i else .hole i

mutual
/-- one iteration of the replacement loop is the substitution at one point -/
theorem replaceOne_eq (id : Nat) (r : PTree) : ∀ t : PTree, replaceOne id r t = substHoles (only [id] fun _ => r) t
  | .tok _ | .hole _ => rfl
  | .node d cs => by simp only [replaceOne, substHoles, replaceOneF_eq id r cs]
theorem replaceOneF_eq (id : Nat) (r : PTree) : ∀ f : PForest, replaceOneF id r f = substHolesF (only [id] fun _ => r) f
  | .nil => rfl
  | .cons (.hole i) rest => by simp [replaceOneF, substHolesF, only, replaceOneF_eq id r rest]
  | .cons (.tok v) rest => by simp only [replaceOneF, substHolesF, replaceOne_eq, replaceOneF_eq id r rest]
  | .cons (.node d cs) rest => by
    simp only [replaceOneF, substHolesF, replaceOne_eq id r (.node d cs), replaceOneF_eq id r rest]
end

mutual
theorem substHoles_comp_on (σ ρ τ : Nat → PTree) : ∀ t : PTree, (∀ i ∈ scanHoles t, substChild σ (ρ i) = τ i) →
    substHoles σ (substHoles ρ t) = substHoles τ t
  | .tok _, _ | .hole _, _ => rfl
  | .node d cs, h => by simp only [substHoles, substHolesF_comp_on σ ρ τ cs h]
theorem substHolesF_comp_on (σ ρ τ : Nat → PTree) : ∀ f : PForest, (∀ i ∈ scanHolesF f, substChild σ (ρ i) = τ i) →
    substHolesF σ (substHolesF ρ f) = substHolesF τ f
  | .nil, _ => rfl
  | .cons t rest, h => by
    simp only [scanHolesF, List.mem_append] at h
    rw [substHolesF_cons, substHolesF_cons, substHolesF_cons, substHolesF_comp_on σ ρ τ rest fun i hi => h i (.inr hi)]
    congr 1
    cases t with
    | hole i => exact h i (.inl (by simp [scanHoles]))
    | tok v => rfl
    | node d cs => exact substHoles_comp_on σ ρ τ (.node d cs) fun i hi => h i (.inl hi)
end

mutual
theorem substHoles_hole : ∀ t : PTree, substHoles .hole t = t
  | .tok _ | .hole _ => rfl
  | .node d cs => by simp only [substHoles, substHolesF_hole cs]
theorem substHolesF_hole : ∀ f : PForest, substHolesF .hole f = f
  | .nil => rfl
  | .cons t rest => by
    rw [substHolesF_cons, substHolesF_hole rest]
    congr 1
    cases t with
    | hole _ | tok _ => rfl
    | node d cs => exact substHoles_hole (.node d cs)
end

theorem substHoles_congr (σ ρ : Nat → PTree) (t : PTree) (h : ∀ i ∈ scanHoles t, σ i = ρ i) : substHoles σ t = substHoles ρ t := by
  rw [← substHoles_comp_on σ .hole ρ t h, substHoles_hole]

theorem substHoles_id_on (σ : Nat → PTree) (t : PTree) (h : ∀ i ∈ scanHoles t, σ i = .hole i) : substHoles σ t = t :=
  (substHoles_congr σ .hole t h).trans (substHoles_hole t)

mutual
theorem scanHoles_holeFree : ∀ t : PTree, holeFree t = true → scanHoles t = []
  | .tok _, _ => rfl
  | .hole _, h => by simp [holeFree] at h
  | .node d cs, h => scanHolesF_holeFree cs h
theorem scanHolesF_holeFree : ∀ f : PForest, holeFreeF f = true → scanHolesF f = []
  | .nil, _ => rfl
  | .cons t rest, h => by
    simp only [holeFreeF, Bool.and_eq_true] at h
    rw [scanHolesF, scanHoles_holeFree t h.1, scanHolesF_holeFree rest h.2]
    rfl
end

theorem substChild_holeFree (σ : Nat → PTree) {t : PTree} (h : holeFree t = true) : substChild σ t = t := by
  cases t with
  | hole i => simp [holeFree] at h
  | tok v => rfl
  | node d cs => exact substHoles_id_on σ _ fun i hi => by rw [scanHoles_holeFree _ h] at hi; cases hi

theorem replaceAll_eq (res : Nat → PTree) (hres : ∀ i, holeFree (res i) = true) :
    ∀ (ids : List Nat) (u : PTree), replaceAll (ids.zip (ids.map res)) u = substHoles (only ids res) u
  | [], u => (substHoles_id_on _ u fun _ _ => if_neg List.not_mem_nil).symm
  | i :: rest, u => by
    rw [List.map_cons, List.zip_cons_cons, replaceAll, List.foldl_cons, ← replaceAll, replaceAll_eq res hres rest, replaceOne_eq]
    refine substHoles_comp_on _ _ _ u fun j _ => ?_
    by_cases hji : j = i
    -- a result put in place is hole-free: the later iterations leave it alone
    · subst hji; simp [only, substChild_holeFree _ (hres j)]
    · simp [only, hji, substChild]

/-- **placeholders.** Every package occurrence gets the expression resolved for it.  `hnd` is not used: the model scans once, before the
loop; the code zips the results with a lazy re-scan of the tree it is mutating, where a repeated coroutine object would shift the pairing. -/
theorem C12_placeholders (t : PTree) (res : Nat → PTree) (hnd : (scanHoles t).Nodup) (hres : ∀ i, holeFree (res i) = true) :
    replaceAll ((scanHoles t).zip ((scanHoles t).map res)) t = substHoles res t := by
  have _ := hnd
  rw [replaceAll_eq res hres]
  exact substHoles_congr _ _ t fun i hi => if_pos hi

/-- **context-local data.** Same statement as `ctx_schedule_independent` (Lemmas/Tasks.lean). -/
theorem C12_context (P : Tid → List COp) (parent : Tid → Option (Tid × Nat)) (wf : CWF P parent) (sched : List Tid) :
    ∀ e ∈ (crun P cinit sched).out, e.2.2 = expected P parent e.1 e.2.1 :=
  ctx_schedule_independent P parent wf sched

end Ahbicht.Properties.C12

