import Ahbicht.Model.Fc
import Ahbicht.Lemmas.Flat
import Ahbicht.Lemmas.Except
/-!
# C08 — format-constraint evaluation is Boolean and explains every failure
-/
namespace Ahbicht.Properties.C08
open Ahbicht

/-- expressions over condition keys with U/O/X only (what C07 produces) -/
def FcExpr : Expr → Bool
  | .leaf (.cond _) => true
  | .leaf _ => false
  | .bin .then_ _ _ => false
  | .bin _ l r => FcExpr l && FcExpr r

theorem fcExpr_bin (o : Op) (l r : Expr) : FcExpr (.bin o l r) = (o != .then_ && (FcExpr l && FcExpr r)) := by
  cases o <;> rfl

theorem fcExpr_flat {e e' : Expr} (h : e.flat = e'.flat) : FcExpr e = FcExpr e' :=
  flat_congr (mul := fun o a b => o != .then_ && (a && b)) (fun o => by cases o <;> decide) FcExpr fcExpr_bin h

def opf : Op → Bool → Bool → Bool
  | .and_, a, b => a && b | .then_, a, b => a && b | .or_, a, b => a || b | .xor_, a, b => a != b

theorem opf_assoc (op : Op) : ∀ a b c : Bool, opf op (opf op a b) c = opf op a (opf op b c) := by
  cases op <;> decide

theorem boolSem_opf (env : List Char → Bool) (op : Op) (l r : Expr) :
    boolSem env (.bin op l r) = opf op (boolSem env l) (boolSem env r) := by
  cases op <;> rfl

theorem boolSem_flat (env : List Char → Bool) {e e' : Expr} (h : e.flat = e'.flat) : boolSem env e = boolSem env e' :=
  flat_congr opf_assoc (boolSem env) (boolSem_opf env) h

/-- **C08 (grouping).** The grouping inside a run does not matter for the value. -/
theorem C08_assoc (env : List Char → Bool) (o : Op) (a b c : Expr) (ho : o ≠ .then_) :
    boolSem env (.bin o (.bin o a b) c) = boolSem env (.bin o a (.bin o b c)) := by
  simp only [boolSem_opf, opf_assoc]

/-- `then_` has no builder: the subtree stays a `Tree` and evaluation fails -/
def efcOp : Op → Efc → Efc → Efc
  | .and_ => fcAnd
  | .or_ => fcOr
  | .xor_ => fcXor
  | .then_ => fun a _ => a

theorem evalFc_bin (env : FcEnv) (o : Op) (l r : Expr) :
    evalFc env (.bin o l r) =
      evalFc env l >>= fun a => evalFc env r >>= fun b => if o = .then_ then .error .other else .ok (efcOp o a b) := by
  cases o <;> rfl

theorem evalFc_induct {env : FcEnv} {P : Expr → Efc → Prop}
    (cond : ∀ k x, env k = some x → P (.leaf (.cond k)) x) (pkg : ∀ k rep x, env k = some x → P (.leaf (.pkg k rep)) x)
    (bin : ∀ o l r a b, o ≠ .then_ → P l a → P r b → P (.bin o l r) (efcOp o a b)) :
    ∀ t, Sat (evalFc env t) (P t) fun _ => True
  | .leaf (.cond k) => by
    rw [evalFc]
    cases he : env k with
    | none => trivial
    | some x => exact cond k x he
  | .leaf (.pkg k rep) => by
    rw [evalFc]
    cases he : env k with
    | none => trivial
    | some x => exact pkg k rep x he
  | .leaf (.time _) => trivial
  | .bin o l r => by
    rw [evalFc_bin]
    refine .bind ((evalFc_induct cond pkg bin l).imp fun a ha => .bind ((evalFc_induct cond pkg bin r).imp fun b hb => ?_))
    exact .ite (fun _ => trivial) fun ho => bin o l r a b ho ha hb

theorem efcOp_ok {o : Op} (ho : o ≠ .then_) (a b : Efc) : (efcOp o a b).ok = opf o a.ok b.ok := by
  cases o <;> first | rfl | exact absurd rfl ho

/-- **C08 (value).** A successful evaluation has the Boolean value of the expression (neither premise is needed). -/
theorem C08_value {env : FcEnv} {t : Expr} {r : Efc} (hf : FcExpr t = true) (hk : ∀ k ∈ condKeys t, (env k).isSome)
    (h : evalFc env t = .ok r) : r.ok = boolSem (fun k => ((env k).map (·.ok)).getD false) t :=
  (evalFc_induct (P := fun t r => r.ok = boolSem (fun k => ((env k).map (·.ok)).getD false) t)
    (fun k x he => by simp [boolSem, he]) (fun k _ x he => by simp [boolSem, he])
    (fun o l r a b ho ha hb => by rw [efcOp_ok ho, boolSem_opf, ha, hb]) t).ok r h

/-- **C08 (totality).** With every key evaluated, evaluation succeeds. -/
theorem evalFc_total {env : FcEnv} {t : Expr} (hf : FcExpr t = true) (hk : ∀ k ∈ condKeys t, (env k).isSome) :
    ∃ r, evalFc env t = .ok r := by
  induction t with
  | leaf a =>
    cases a with
    | cond k =>
      obtain ⟨x, hx⟩ := Option.isSome_iff_exists.1 (hk k (List.mem_singleton_self k))
      exact ⟨x, by rw [evalFc, hx]⟩
    | pkg k r => cases hf
    | time k => cases hf
  | bin o l r ihl ihr =>
    rw [condKeys_bin, List.forall_mem_append] at hk
    rw [fcExpr_bin, Bool.and_eq_true, Bool.and_eq_true, bne_iff_ne] at hf
    obtain ⟨a, ha⟩ := ihl hf.2.1 hk.1
    obtain ⟨b, hb⟩ := ihr hf.2.2 hk.2
    exact ⟨efcOp o a b, by rw [evalFc_bin, ha, hb]; exact if_neg hf.1⟩

/-- **C08 (absent / empty).** Counts as fulfilled, without a message. -/
theorem C08_empty (env : FcEnv) : fcEvaluation env none = .ok ⟨true, none⟩ := rfl

/-! `oder` and `Entweder … oder` carry a message exactly when unfulfilled; `und` passes on those of its operands -/

theorem fcOr_msg (a b : Efc) : (fcOr a b).msg.isSome = !(fcOr a b).ok := by
  rcases a with ⟨_ | _, _⟩ <;> rcases b with ⟨_ | _, _⟩ <;> rfl

theorem fcXor_msg (a b : Efc) : (fcXor a b).msg.isSome = !(fcXor a b).ok := by
  rcases a with ⟨_ | _, _⟩ <;> rcases b with ⟨_ | _, _⟩ <;> rfl

theorem fcAnd_of_ok (a : Efc) {b : Efc} (h : b.ok = true) : fcAnd a b = a := by
  simp only [fcAnd, h, Bool.and_true, if_true]

theorem fcAnd_of_not_ok (a : Efc) {b : Efc} (h : b.ok = false) :
    (fcAnd a b).ok = false ∧ (fcAnd a b).msg.isSome = (a.msg.isSome || b.msg.isSome) := by
  rcases a with ⟨oa, _ | m⟩ <;> simp [fcAnd, h]

theorem iff_of_msg {x : Efc} (h : x.msg.isSome = !x.ok) : x.ok = false ↔ x.msg.isSome = true := by
  rw [h]; cases x.ok <;> simp

theorem efcOp_msg {o : Op} (ho : o ≠ .then_) (a b : Efc) :
    ((a.ok = false → a.msg.isSome) → (b.ok = false → b.msg.isSome) → (efcOp o a b).ok = false → (efcOp o a b).msg.isSome) ∧
    ((a.msg.isSome → a.ok = false) → (efcOp o a b).msg.isSome → (efcOp o a b).ok = false) := by
  cases o with
  | then_ => exact absurd rfl ho
  | or_ => exact ⟨fun _ _ => (iff_of_msg (fcOr_msg a b)).1, fun _ => (iff_of_msg (fcOr_msg a b)).2⟩
  | xor_ => exact ⟨fun _ _ => (iff_of_msg (fcXor_msg a b)).1, fun _ => (iff_of_msg (fcXor_msg a b)).2⟩
  | and_ =>
    cases hb : b.ok with
    | true => rw [efcOp, fcAnd_of_ok a hb]; exact ⟨fun pa _ => pa, id⟩
    | false =>
      obtain ⟨h1, h2⟩ := fcAnd_of_not_ok a hb
      exact ⟨fun _ pb _ => by rw [efcOp, h2, pb rfl, Bool.or_true], fun _ _ => h1⟩

/-- **C08 (message if unfulfilled).** If every unfulfilled single constraint carries a message, so does every unfulfilled result. -/
theorem C08_msg_if {env : FcEnv} (hleaf : ∀ k r, env k = some r → r.ok = false → r.msg.isSome) {t : Expr} {r : Efc}
    (h : evalFc env t = .ok r) : r.ok = false → r.msg.isSome :=
  (evalFc_induct (P := fun _ r => r.ok = false → r.msg.isSome = true) hleaf (fun k _ => hleaf k)
    (fun _ _ _ a b ho => (efcOp_msg ho a b).1) t).ok r h

/-- **C08 (message iff unfulfilled).** If moreover fulfilled single constraints carry none: a message iff unfulfilled. -/
theorem C08_msg_iff {env : FcEnv} (hleaf : ∀ k r, env k = some r → (r.ok = false ↔ r.msg.isSome)) {t : Expr} {r : Efc}
    (h : evalFc env t = .ok r) : r.ok = false ↔ r.msg.isSome :=
  (evalFc_induct (P := fun _ r => r.ok = false ↔ r.msg.isSome = true) hleaf (fun k _ => hleaf k)
    (fun _ _ _ a b ho pa pb => ⟨(efcOp_msg ho a b).1 pa.1 pb.1, (efcOp_msg ho a b).2 pa.2⟩) t).ok r h

/-- without the second premise the "only if" half fails for one key (DESIGN §3.3) -/
theorem C08_note_counterexample :
    evalFc (fun k => if k = ['9','0','1'] then some ⟨true, some "note"⟩ else none) (.leaf (.cond ['9','0','1'])) = .ok ⟨true, some "note"⟩ := rfl

/-- the default message of the base `FcEvaluator` supplies the premise of `C08_msg_if` -/
theorem C08_default_message (k : List Char) (r : Efc) : (withDefaultMessage k r).ok = false → (withDefaultMessage k r).msg.isSome := by
  unfold withDefaultMessage
  cases ho : r.ok <;> cases hm : r.msg <;> simp [ho, hm]

/-! non-vacuity: a fulfilled OR inside an unfulfilled AND -/
example : (evalFc (fun k => if k = ['1'] then some ⟨true, none⟩ else if k = ['2'] then some ⟨false, some "m2"⟩ else some ⟨false, some "m3"⟩)
    (.bin .and_ (.bin .or_ (.leaf (.cond ['1'])) (.leaf (.cond ['2']))) (.leaf (.cond ['3'])))).toOption = some ⟨false, some "m3"⟩ := by decide +kernel

end Ahbicht.Properties.C08
