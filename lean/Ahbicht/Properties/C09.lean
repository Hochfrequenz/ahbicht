import Ahbicht.Model.AhbEval
/-!
# C09 — the indicators are normalised, the first fulfilled part decides (the split into parts: C09Split.lean)
-/
namespace Ahbicht.Properties.C09
open Ahbicht Generated

def upperAscii (c : Char) : Char := if 'a'.toNat ≤ c.toNat ∧ c.toNat ≤ 'z'.toNat then Char.ofNat (c.toNat - 32) else c

def expectedIndicator (written : String) : Option String :=
  let w := written.toList.map upperAscii
  if w = ['M'] ∨ w = ['M','U','S','S'] then some "MUSS"
  else if w = ['S'] ∨ w = ['S','O','L','L'] then some "SOLL"
  else if w = ['K'] ∨ w = ['K','A','N','N'] then some "KANN"
  else if w = ['X'] then some "X" else if w = ['O'] then some "O" else if w = ['U'] then some "U"
  else none

/-- **C09 (normalised indicator).** Each of the 60 ASCII spellings of the table extracted from the transformer callbacks (every letter
case) maps to its indicator; `SpellMark` (C09Split) also admits U+017F and U+212A, which `normalise` does not know (DESIGN §3.3). -/
theorem C09_normalise : indicatorTable.all (fun e => e.2.2 == expectedIndicator e.2.1 && e.2.2.isSome) = true := by
  decide +kernel
/-- the 60 rows the extractor enumerates (a truncated extraction would satisfy `C09_normalise` too); "complete" in that sense only -/
theorem C09_normalise_complete : indicatorTable.length = 60 := by decide

variable {rs : List AhbResult}

theorem selectResult_find {x : AhbResult} (h : rs.find? (fun r => r.rc.fulfilled == some true) = some x) :
    selectResult rs = some (if rs.length > 1 then { x with rc := { x.rc with conditional := some true } } else x) := by
  rw [selectResult, h]

theorem selectResult_none (h : rs.find? (fun r => r.rc.fulfilled == some true) = none) : selectResult rs = rs.getLast? := by
  rw [selectResult, h]

theorem find_none (h : ∀ p ∈ rs, p.rc.fulfilled ≠ some true) : rs.find? (fun r => r.rc.fulfilled == some true) = none :=
  List.find?_eq_none.2 fun p hp hb => h p hp (beq_iff_eq.1 hb)

/-- the selected result is, up to the `conditional` override, one of the part results -/
theorem C09_select_mem {r : AhbResult} (h : selectResult rs = some r) :
    ∃ r₀ ∈ rs, r.indicator = r₀.indicator ∧ r.rc.fulfilled = r₀.rc.fulfilled ∧ r.rc.hints = r₀.rc.hints ∧
      r.rc.fce = r₀.rc.fce ∧ r.fc = r₀.fc := by
  cases hf : rs.find? (fun r => r.rc.fulfilled == some true) with
  | some x =>
    rw [selectResult_find hf] at h
    cases h
    exact ⟨x, List.mem_of_find?_eq_some hf, by split <;> exact ⟨rfl, rfl, rfl, rfl, rfl⟩⟩
  | none => exact ⟨r, List.mem_of_getLast? (selectResult_none hf ▸ h), rfl, rfl, rfl, rfl, rfl⟩

/-- **C09 (selection).** The first fulfilled part is returned; -/
theorem C09_first_fulfilled (pre : List AhbResult) (x : AhbResult) (post : List AhbResult)
    (hpre : ∀ p ∈ pre, p.rc.fulfilled ≠ some true) (hx : x.rc.fulfilled = some true) :
    ∃ r, selectResult (pre ++ x :: post) = some r ∧ r.indicator = x.indicator ∧ r.rc.fulfilled = some true ∧
      r.rc.hints = x.rc.hints ∧ r.rc.fce = x.rc.fce ∧ r.fc = x.fc := by
  have hf : (pre ++ x :: post).find? (fun r => r.rc.fulfilled == some true) = some x := by
    rw [List.find?_append, find_none hpre, List.find?_cons, beq_iff_eq.2 hx]
    rfl
  refine ⟨_, selectResult_find hf, ?_⟩
  split <;> exact ⟨rfl, hx, rfl, rfl, rfl⟩

/-- if none is fulfilled, the last part, unchanged; -/
theorem C09_last_otherwise (h : ∀ p ∈ rs, p.rc.fulfilled ≠ some true) : selectResult rs = rs.getLast? :=
  selectResult_none (find_none h)

theorem selectResult_some (h : rs ≠ []) : ∃ r, selectResult rs = some r := by
  cases hf : rs.find? (fun r => r.rc.fulfilled == some true) with
  | some x => exact ⟨_, selectResult_find hf⟩
  | none =>
    rw [selectResult_none hf]
    exact ⟨_, List.getLast?_eq_some_getLast h⟩

/-- the `conditional` of a single part is not overridden. -/
theorem C09_single (r : AhbResult) : selectResult [r] = some r := by
  unfold selectResult
  by_cases h : r.rc.fulfilled = some true <;> simp [h]

/-- **C09 (bare indicator).** -/
theorem C09_bare (ind : String) :
    (bareResult ind).rc.fulfilled = some true ∧ (bareResult ind).rc.conditional = some false ∧
      (bareResult ind).rc.hints = none ∧ (bareResult ind).fc = ⟨true, none⟩ := ⟨rfl, rfl, rfl, rfl⟩

/-! non-vacuity -/
example : normalise .modal "mUsS".toList = some "MUSS" ∧ normalise .prefix_ "x".toList = some "X" := by decide +kernel
example : selectResult [⟨"MUSS", ⟨some false, some true, none, none⟩, ⟨true, none⟩⟩, bareResult "KANN"] =
    some ⟨"KANN", ⟨some true, some true, none, none⟩, ⟨true, none⟩⟩ := by decide +kernel

end Ahbicht.Properties.C09
