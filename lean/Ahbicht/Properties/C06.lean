import Ahbicht.Lemmas.Rc
/-!
# C06 — expression validity is structural (the validity check itself: C06Check.lean)
-/
namespace Ahbicht.Properties.C06
open Ahbicht

variable {rcEnv rcEnv' : List Char → Option CFV} {hintEnv hintEnv' : List Char → Option String}

/-- **C06 (structural).** Evaluation raises the invalid-expression error exactly if `invalidAt`, whatever the assignment. -/
theorem C06_structural {t : Expr} (hwf : WF t = true) (ha : Assigns rcEnv hintEnv t) :
    evalRc (mkEnv rcEnv hintEnv) t = .error .invalidExpr ↔ invalidAt t = true :=
  (eval_collect t hwf ha).error_iff

/-- **C06 (valid).** A valid expression raises no error at all. -/
theorem C06_valid_never_raises {t : Expr} (hwf : WF t = true) (ha : Assigns rcEnv hintEnv t) (hv : invalidAt t = false) :
    ∃ n, evalRc (mkEnv rcEnv hintEnv) t = .ok n :=
  let ⟨n, hn, _⟩ := (eval_char t hwf ha).2 hv
  ⟨n, hn⟩

/-- **C06 (all or none).** Raising under one assignment means raising under every assignment. -/
theorem C06_all_or_none {t : Expr} (hwf : WF t = true) (ha : Assigns rcEnv hintEnv t) (ha' : Assigns rcEnv' hintEnv' t) :
    evalRc (mkEnv rcEnv hintEnv) t = .error .invalidExpr ↔ evalRc (mkEnv rcEnv' hintEnv') t = .error .invalidExpr := by
  rw [C06_structural hwf ha, C06_structural hwf ha']

/-- a valid expression is NEUTRAL iff it is built from hints and format constraints alone -/
theorem C06_neutral_iff {t : Expr} (hwf : WF t = true) (ha : Assigns rcEnv hintEnv t) (hv : invalidAt t = false) :
    denote rcEnv t = .N ↔ neutralOnly t = true := by
  obtain ⟨n, _, g⟩ := (eval_char t hwf ha).2 hv
  rw [← g.state]; exact g.neutral

/-- `C06_structural` for `requirement_constraint_evaluation` as a whole -/
theorem C06_evaluation {t : Expr} (hwf : WF t = true) (ha : Assigns rcEnv hintEnv t) :
    rcEvaluation rcEnv hintEnv t = .error .invalidExpr ↔ invalidAt t = true := by
  rw [rcEvaluation_eq hwf ha, ← C06_structural hwf ha]
  cases evalRc (mkEnv rcEnv hintEnv) t <;> simp [Except.map]

/-- without requirement and format keys nothing is invalid: why the empty enumeration of finding K2 is harmless in `C06_check` -/
theorem C06_no_keys {t : Expr} (h : ∀ k ∈ condKeys t, catOf k = some .hint) (hleaf : ∀ a ∈ t.atoms, ∃ k, a = .cond k) :
    invalidAt t = false := by
  suffices h : invalidAt t = false ∧ neutralOnly t = true ∧ t.isFcLeaf = false from h.1
  induction t with
  | leaf a =>
    obtain ⟨k, rfl⟩ := hleaf a (List.mem_singleton_self a)
    simp [invalidAt, neutralOnly, Expr.isFcLeaf, h k (List.mem_singleton_self k)]
  | bin o l r ihl ihr =>
    rw [condKeys_bin, List.forall_mem_append] at h
    rw [Expr.atoms, List.forall_mem_append] at hleaf
    obtain ⟨il, nl, fl⟩ := ihl h.1 hleaf.1
    obtain ⟨ir, nr, fr⟩ := ihr h.2 hleaf.2
    exact ⟨by rw [invalidAt, il, ir, nl, nr, fl, fr]; simp, by rw [neutralOnly, nl, nr]; rfl, rfl⟩

/-! non-vacuity: both directions are inhabited -/
example : WF (.bin .or_ (.leaf (.cond ['1'])) (.leaf (.cond ['5','0','1']))) = true ∧
    invalidAt (.bin .or_ (.leaf (.cond ['1'])) (.leaf (.cond ['5','0','1']))) = true := by decide +kernel
example : invalidAt (.bin .xor_ (.bin .then_ (.leaf (.cond ['9','8','3'])) (.leaf (.cond ['1'])))
    (.bin .then_ (.leaf (.cond ['9','8','4'])) (.leaf (.cond ['2'])))) = false := by decide +kernel

end Ahbicht.Properties.C06
