import Ahbicht.Generated.Grammar
/-!
# T2 — the grammars the models were written for

`expected…`: a hand-kept copy of the declarative content of the two Lark parsers as modelled (rules, terminals, options);
`Generated.…` is extracted from the live `Lark` objects on every run.  If the theorems break, the correspondence streams decide
whether behaviour changed.
-/
namespace Ahbicht.Properties.Grammar


def expectedCondTerminals : List (String × String × String × String × Int) := [
  ("WS", "PatternRE", "(?:[ \t\x0c\x0d\n])+", "", 0),
  ("TIME_CONDITION_KEY", "PatternRE", "UB(1|2|3)", "", 0),
  ("CONDITION_KEY", "PatternRE", "(?:[0-9])+", "", 0),
  ("REPEATABILITY", "PatternRE", "\\d+\\.{2}[1-9]\\d*", "", 0),
  ("PACKAGE_KEY", "PatternRE", "(?:[0-9])+P", "", 0),
  ("O", "PatternStr", "O", "i", 0),
  ("__ANON_0", "PatternStr", "∨", "", 0),
  ("X", "PatternStr", "X", "i", 0),
  ("__ANON_1", "PatternStr", "⊻", "", 0),
  ("U", "PatternStr", "U", "i", 0),
  ("__ANON_2", "PatternStr", "∧", "", 0),
  ("LPAR", "PatternStr", "(", "", 0),
  ("RPAR", "PatternStr", ")", "", 0),
  ("LSQB", "PatternStr", "[", "", 0),
  ("RSQB", "PatternStr", "]", "", 0)
]
def expectedCondRules : List (String × List (String × Bool) × String × Nat × Bool × Bool × Int) := [
  ("expression", [("expression", false), ("O", true), ("expression", false)], "or_composition", 0, true, false, 0),
  ("expression", [("expression", false), ("__ANON_0", true), ("expression", false)], "or_composition", 1, true, false, 0),
  ("expression", [("expression", false), ("X", true), ("expression", false)], "xor_composition", 2, true, false, 0),
  ("expression", [("expression", false), ("__ANON_1", true), ("expression", false)], "xor_composition", 3, true, false, 0),
  ("expression", [("expression", false), ("U", true), ("expression", false)], "and_composition", 4, true, false, 0),
  ("expression", [("expression", false), ("__ANON_2", true), ("expression", false)], "and_composition", 5, true, false, 0),
  ("expression", [("expression", false), ("expression", false)], "then_also_composition", 6, true, false, 0),
  ("expression", [("brackets", false)], "", 7, true, false, 0),
  ("expression", [("package", false)], "", 8, true, false, 0),
  ("expression", [("condition", false)], "", 9, true, false, 0),
  ("expression", [("time_condition", false)], "", 10, true, false, 0),
  ("brackets", [("LPAR", true), ("expression", false), ("RPAR", true)], "", 0, true, false, 0),
  ("time_condition", [("LSQB", true), ("TIME_CONDITION_KEY", false), ("RSQB", true)], "", 0, false, false, 0),
  ("package", [("LSQB", true), ("PACKAGE_KEY", false), ("REPEATABILITY", false), ("RSQB", true)], "", 0, false, false, 0),
  ("package", [("LSQB", true), ("PACKAGE_KEY", false), ("RSQB", true)], "", 1, false, false, 0),
  ("condition", [("LSQB", true), ("CONDITION_KEY", false), ("RSQB", true)], "", 0, false, false, 0)
]
def expectedCondOptions : String × String × String × List String × List String := ("earley", "dynamic", "resolve", ["expression"], ["WS"])
def expectedAhbTerminals : List (String × String × String × String × Int) := [
  ("PREFIX_OPERATOR", "PatternRE", "(?:(?i:X)|(?i:O)|(?i:U))", "", 0),
  ("MODAL_MARK", "PatternRE", "M(uss)?|S(oll)?|K(ann)?", "i", 0),
  ("CONDITION_EXPRESSION", "PatternRE", "(?!\\BU\\B)[\\[\\]\\(\\)U∧O∨X⊻\\d\\sP\\.UB]+", "i", 0)
]
def expectedAhbRules : List (String × List (String × Bool) × String × Nat × Bool × Bool × Int) := [
  ("ahb_expression", [("__ahb_expression_plus_0", false)], "", 0, false, false, 0),
  ("ahb_expression", [("prefix_operator_expression", false)], "", 1, false, false, 0),
  ("ahb_expression", [("requirement_indicator", false)], "", 2, false, false, 0),
  ("ahb_expression", [("__ahb_expression_plus_0", false), ("requirement_indicator", false)], "", 3, false, false, 0),
  ("modal_mark_expression", [("MODAL_MARK", false), ("CONDITION_EXPRESSION", false)], "single_requirement_indicator_expression", 0, false, false, 0),
  ("prefix_operator_expression", [("PREFIX_OPERATOR", false), ("CONDITION_EXPRESSION", false)], "single_requirement_indicator_expression", 0, false, false, 0),
  ("requirement_indicator", [("PREFIX_OPERATOR", false)], "", 0, false, false, 0),
  ("requirement_indicator", [("MODAL_MARK", false)], "", 1, false, false, 0),
  ("__ahb_expression_plus_0", [("modal_mark_expression", false)], "", 0, false, false, 0),
  ("__ahb_expression_plus_0", [("__ahb_expression_plus_0", false), ("modal_mark_expression", false)], "", 1, false, false, 0)
]
def expectedAhbOptions : String × String × String × List String × List String := ("earley", "dynamic", "resolve", ["ahb_expression"], [])


theorem cond_terminals_as_modelled : Generated.condTerminals = expectedCondTerminals := by rfl
theorem cond_rules_as_modelled : Generated.condRules = expectedCondRules := by rfl
theorem cond_options_as_modelled : Generated.condOptions = expectedCondOptions := by rfl
theorem ahb_terminals_as_modelled : Generated.ahbTerminals = expectedAhbTerminals := by rfl
theorem ahb_rules_as_modelled : Generated.ahbRules = expectedAhbRules := by rfl
theorem ahb_options_as_modelled : Generated.ahbOptions = expectedAhbOptions := by rfl

end Ahbicht.Properties.Grammar
