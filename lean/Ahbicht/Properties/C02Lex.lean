import Ahbicht.Properties.C01
/-!
# C02 (atoms) — the scanner accepts nothing but the documented written forms

The converse of `C01_spelling_ws`, by an invariant of the scanner (`Seen`).
-/
namespace Ahbicht.Properties.C02Lex
open Ahbicht

def AllInt (ds : List Char) : Prop := ∀ c ∈ ds, isIntDigit c = true
def AllUni (ds : List Char) : Prop := ∀ c ∈ ds, isUniDigit c = true

theorem spellAtom_snoc {a : Atom} {body : List Char} {c : Char} (h : SpellAtom a body) (hc : isWs c = true) :
    SpellAtom a (body ++ [c]) := by
  cases h with
  | cond ds w1 w2 hne hds hw1 hw2 =>
    simpa using SpellAtom.cond ds w1 (w2 ++ [c]) hne hds hw1 (all_append hw2 (all_one hc))
  | pkg ds w1 w2 hne hds hw1 hw2 =>
    simpa using SpellAtom.pkg ds w1 (w2 ++ [c]) hne hds hw1 (all_append hw2 (all_one hc))
  | pkgRep ds w1 w2 w3 a b b0 hne hds hw1 hw2 hw3 hane ha hb0 hb =>
    simpa using SpellAtom.pkgRep ds w1 w2 (w3 ++ [c]) a b b0 hne hds hw1 hw2 (all_append hw3 (all_one hc)) hane ha hb0 hb
  | time n w1 w2 hn hw1 hw2 =>
    simpa using SpellAtom.time n w1 (w2 ++ [c]) hn hw1 (all_append hw2 (all_one hc))

/-- `p` is a package atom with key `key` and then the beginning `acc.reverse = m ++ tail` of a repeatability, `m` its first number -/
def RepPre (key acc p tail : List Char) : Prop :=
  ∃ p0 m, SpellAtom (.pkg key none) p0 ∧ p = p0 ++ acc.reverse ∧ m ≠ [] ∧ AllUni m ∧ acc.reverse = m ++ tail

theorem repPre_snoc {key acc p tail : List Char} (h : RepPre key acc p tail) (c : Char) :
    RepPre key (c :: acc) (p ++ [c]) (tail ++ [c]) := by
  obtain ⟨p0, m, hh, rfl, hne, hu, hacc⟩ := h
  exact ⟨p0, m, hh, by simp, hne, hu, by simp [hacc]⟩

theorem repPre_closed {key acc p b : List Char} {b0 : Char} (h : RepPre key acc p ('.' :: '.' :: b0 :: b))
    (hb0 : isRepFirstMax b0 = true) (hb : AllUni b) : SpellAtom (.pkg key (some acc.reverse)) p := by
  obtain ⟨p0, m, hh, rfl, hm, hu, hacc⟩ := h
  cases hh with
  | pkg ds w1 w2 hne hds hw1 hw2 => simpa [hacc] using SpellAtom.pkgRep ds w1 w2 [] m b b0 hne hds hw1 hw2 allWs_nil hm hu hb0 hb

/-- in state `s`, the characters `p` read since `[` are a correct beginning of an atom; after `INT P` they are a complete package
atom, which a repeatability may still extend -/
def Pre : LState → List Char → Prop
  | .out, _ => False
  | .open_, p => AllWs p
  | .digits ds, p => ∃ w1, AllWs w1 ∧ ds.reverse ≠ [] ∧ AllInt ds.reverse ∧ p = w1 ++ ds.reverse
  | .ub1, p => ∃ w1, AllWs w1 ∧ p = w1 ++ ['U']
  | .ub2, p => ∃ w1, AllWs w1 ∧ p = w1 ++ ['U', 'B']
  | .afterPkg key, p => SpellAtom (.pkg key none) p
  | .repMin key acc, p => RepPre key acc p []
  | .repDot key acc, p => RepPre key acc p ['.']
  | .repDots key acc, p => RepPre key acc p ['.', '.']
  | .repMax key acc, p => ∃ b0 b, isRepFirstMax b0 = true ∧ AllUni b ∧ RepPre key acc p ('.' :: '.' :: b0 :: b)
  | .close a, p => SpellAtom a p

/-- `p` spells the complete atom `a`: whitespace keeps it so, `]` delivers it.  The states `.digits` and `.repMax` end in the same
two tests. -/
theorem step_closing {a : Atom} {p : List Char} (hat : SpellAtom a p) {c : Char} {s' : LState} {t : Option Tok}
    (h : lexStep (.close a) c = some (s', t)) :
    (t = none ∧ Pre s' (p ++ [c])) ∨ (s' = .out ∧ isRsqb c = true ∧ ∃ a, t = some (.atom a) ∧ SpellAtom a p) := by
  dsimp only [lexStep] at h
  rcases ite_some h with ⟨hw, h⟩ | ⟨-, h⟩
  · cases h; exact .inl ⟨rfl, spellAtom_snoc hat hw⟩
  rcases ite_some h with ⟨hr, h⟩ | ⟨-, h⟩
  · cases h; exact .inr ⟨rfl, hr, _, rfl, hat⟩
  cases h

/-- inside the brackets: the beginning is extended, or the atom is closed by `]` -/
theorem step_pre {s s' : LState} {c : Char} {t : Option Tok} {p : List Char} (hp : Pre s p)
    (h : lexStep s c = some (s', t)) :
    (t = none ∧ Pre s' (p ++ [c])) ∨
    (s' = .out ∧ isRsqb c = true ∧ ∃ a, t = some (.atom a) ∧ SpellAtom a p) := by
  cases s <;> dsimp only [lexStep] at h
  case out => exact hp.elim
  case open_ =>
    have hp : AllWs p := hp
    rcases ite_some h with ⟨hw, h⟩ | ⟨-, h⟩
    · cases h; exact .inl ⟨rfl, all_append hp (all_one hw)⟩
    rcases ite_some h with ⟨hd, h⟩ | ⟨-, h⟩
    · cases h; exact .inl ⟨rfl, p, hp, by simp, all_one hd, by simp⟩
    rcases ite_some h with ⟨rfl, h⟩ | ⟨-, h⟩
    · cases h; exact .inl ⟨rfl, p, hp, rfl⟩
    cases h
  case digits ds =>
    obtain ⟨w1, hw1, hne, hds, rfl⟩ := hp
    rcases ite_some h with ⟨hd, h⟩ | ⟨-, h⟩
    · cases h
      exact .inl ⟨rfl, w1, hw1, by simp, by rw [List.reverse_cons]; exact all_append hds (all_one hd), by simp⟩
    rcases ite_some h with ⟨rfl, h⟩ | ⟨-, h⟩
    · cases h; exact .inl ⟨rfl, by simpa [Pre] using SpellAtom.pkg ds.reverse w1 [] hne hds hw1 allWs_nil⟩
    -- what is left of `h` is `lexStep (.close (.cond ds.reverse)) c`, unfolded
    exact step_closing (by simpa using SpellAtom.cond ds.reverse w1 [] hne hds hw1 allWs_nil) h
  case ub1 =>
    obtain ⟨w1, hw1, rfl⟩ := hp
    rcases ite_some h with ⟨rfl, h⟩ | ⟨-, h⟩
    · cases h; exact .inl ⟨rfl, w1, hw1, by simp⟩
    cases h
  case ub2 =>
    obtain ⟨w1, hw1, rfl⟩ := hp
    rcases ite_some h with ⟨hn, h⟩ | ⟨-, h⟩
    · cases h; exact .inl ⟨rfl, by simpa [Pre] using SpellAtom.time c w1 [] hn hw1 allWs_nil⟩
    cases h
  case afterPkg key =>
    have hp : SpellAtom (.pkg key none) p := hp
    rcases ite_some h with ⟨hw, h⟩ | ⟨-, h⟩
    · cases h; exact .inl ⟨rfl, spellAtom_snoc hp hw⟩
    rcases ite_some h with ⟨hu, h⟩ | ⟨-, h⟩
    · cases h; exact .inl ⟨rfl, p, [c], hp, by simp, by simp, all_one hu, by simp⟩
    rcases ite_some h with ⟨hr, h⟩ | ⟨-, h⟩
    · cases h; exact .inr ⟨rfl, hr, _, rfl, hp⟩
    cases h
  case repMin key acc =>
    have hp : RepPre key acc p [] := hp
    rcases ite_some h with ⟨hc, h⟩ | ⟨-, h⟩
    · cases h
      obtain ⟨p0, m, hh, rfl, hne, hu, hacc⟩ := hp
      exact .inl ⟨rfl, p0, m ++ [c], hh, by simp, by simp, all_append hu (all_one hc), by simp [hacc]⟩
    rcases ite_some h with ⟨rfl, h⟩ | ⟨-, h⟩
    · cases h; exact .inl ⟨rfl, repPre_snoc hp '.'⟩
    cases h
  case repDot key acc =>
    have hp : RepPre key acc p ['.'] := hp
    rcases ite_some h with ⟨rfl, h⟩ | ⟨-, h⟩
    · cases h; exact .inl ⟨rfl, repPre_snoc hp '.'⟩
    cases h
  case repDots key acc =>
    have hp : RepPre key acc p ['.', '.'] := hp
    rcases ite_some h with ⟨hb0, h⟩ | ⟨-, h⟩
    · cases h; exact .inl ⟨rfl, c, [], hb0, (fun _ h => nomatch h : AllUni []), repPre_snoc hp c⟩
    cases h
  case repMax key acc =>
    obtain ⟨b0, b, hb0, hb, hp⟩ := hp
    rcases ite_some h with ⟨hc, h⟩ | ⟨-, h⟩
    · cases h; exact .inl ⟨rfl, b0, b ++ [c], hb0, all_append hb (all_one hc), repPre_snoc hp c⟩
    exact step_closing (repPre_closed hp hb0 hb) h
  case close a =>
    exact step_closing hp h

theorem step_out {s' : LState} {c : Char} {t : Option Tok} (h : lexStep .out c = some (s', t)) :
    (isWs c = true ∧ s' = .out ∧ t = none) ∨ (isLsqb c = true ∧ s' = .open_ ∧ t = none) ∨
    (s' = .out ∧ ∃ tok, t = some tok ∧ SpellTok tok [c]) := by
  dsimp only [lexStep] at h
  rcases ite_some h with ⟨hw, h⟩ | ⟨-, h⟩
  · cases h; exact .inl ⟨hw, rfl, rfl⟩
  rcases ite_some h with ⟨hl, h⟩ | ⟨-, h⟩
  · cases h; exact .inr (.inl ⟨hl, rfl, rfl⟩)
  rcases ite_some h with ⟨hx, h⟩ | ⟨-, h⟩
  · cases h; exact .inr (.inr ⟨rfl, _, rfl, .lp c hx⟩)
  rcases ite_some h with ⟨hx, h⟩ | ⟨-, h⟩
  · cases h; exact .inr (.inr ⟨rfl, _, rfl, .rp c hx⟩)
  rcases ite_some h with ⟨hx, h⟩ | ⟨-, h⟩
  · cases h; exact .inr (.inr ⟨rfl, _, rfl, .or_ c hx⟩)
  rcases ite_some h with ⟨hx, h⟩ | ⟨-, h⟩
  · cases h; exact .inr (.inr ⟨rfl, _, rfl, .xor_ c hx⟩)
  rcases ite_some h with ⟨hx, h⟩ | ⟨-, h⟩
  · cases h; exact .inr (.inr ⟨rfl, _, rfl, .and_ c hx⟩)
  cases h

/-- what has been read when `ts` are delivered and the state is `s`: a written token sequence, then (unless `s` is `.out`) `[` and
a correct beginning of an atom -/
def Seen (s : LState) (ts : List Tok) (cs : List Char) : Prop :=
  (s = .out ∧ Spelt ts cs) ∨ ∃ pre o p, cs = pre ++ o :: p ∧ Spelt ts pre ∧ isLsqb o = true ∧ Pre s p

theorem step_seen {s s' : LState} {c : Char} {t : Option Tok} {ts : List Tok} {cs : List Char} (hi : Seen s ts cs)
    (h : lexStep s c = some (s', t)) : Seen s' (ts ++ t.toList) (cs ++ [c]) := by
  rcases hi with ⟨rfl, hsp⟩ | ⟨pre, o, p, rfl, hsp, ho, hp⟩
  · rcases step_out h with ⟨hw, rfl, rfl⟩ | ⟨hl, rfl, rfl⟩ | ⟨rfl, tok, rfl, htok⟩
    · exact .inl ⟨rfl, by simpa using spelt_append hsp (.nil [c] (all_one hw))⟩
    · exact .inr ⟨cs, c, [], rfl, by simpa using hsp, hl, allWs_nil⟩
    · exact .inl ⟨rfl, spelt_append hsp (spelt_one htok)⟩
  · rcases step_pre hp h with ⟨rfl, hp'⟩ | ⟨rfl, hr, a, rfl, hat⟩
    · exact .inr ⟨pre, o, p ++ [c], by simp, by simpa using hsp, ho, hp'⟩
    · exact .inl ⟨rfl, by simpa using spelt_append hsp (spelt_one (.atom o c a p ho hr hat))⟩

theorem lexFrom_seen {cs : List Char} : ∀ {s₀ s : LState} {ts₀ ts : List Tok} {cs₀ : List Char}, Seen s₀ ts₀ cs₀ →
    lexFrom s₀ cs = some (s, ts) → Seen s (ts₀ ++ ts) (cs₀ ++ cs) := by
  induction cs with
  | nil => intro _ _ _ _ _ hi h; cases h; simpa using hi
  | cons c cs ih =>
    intro _ _ _ _ _ hi h
    obtain ⟨s', t, ts', hstep, hrec, rfl⟩ := lexFrom_cons_some h
    simpa using ih (step_seen hi hstep) hrec

/-- **C02 (lexical level).** Whatever the scanner accepts is a documented spelling of the tokens it delivers … -/
theorem C02_lex_complete (cs : List Char) (ts : List Tok) (h : lex cs = some ts) : Spelt ts cs := by
  rcases lexFrom_seen (.inl ⟨rfl, .nil [] allWs_nil⟩) (lex_eq_some.1 h) with ⟨-, hsp⟩ | ⟨_, _, _, _, _, _, hp⟩
  · exact hsp
  · exact hp.elim

/-- … and conversely. -/
theorem C02_lex_iff (cs : List Char) (ts : List Tok) : lex cs = some ts ↔ Spelt ts cs :=
  ⟨C02_lex_complete cs ts, C01.C01_spelling_ws⟩

end Ahbicht.Properties.C02Lex
