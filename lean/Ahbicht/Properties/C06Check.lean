import Ahbicht.Properties.C06
import Ahbicht.Properties.C18
/-!
# C06 (validity check) — `is_valid_expression` and evaluation agree

`is_valid_expression` on the parts' condition trees: keys extracted and sanitised, every generated content evaluation result
(`genResults`, C18) tried, invalid iff some evaluation raises the invalid-expression error.
-/
namespace Ahbicht.Properties.C06Check
open Ahbicht

def allKeys (parts : List Expr) : List (List Char) := parts.flatMap condKeys

def rcKeysOf (parts : List Expr) : List (List Char) :=
  sortBy digitsToNat (dedupKeys ((allKeys parts).filter fun k => catOf k == some .rc))

def fcKeysOf (parts : List Expr) : List (List Char) :=
  sortBy digitsToNat (dedupKeys ((allKeys parts).filter fun k => catOf k == some .fc))

/-- the requirement evaluator backed by one generated result -/
def rcEnvOfAssoc (ra : List (List Char × CFV)) : List Char → Option CFV := fun k => (ra.find? (·.1 == k)).map (·.2)

/-- `generate_possible_content_evaluation_results` gives every hint key the text "Hinweis <key>" -/
def hintEnvGen : List Char → Option String := fun k => some ("Hinweis " ++ String.ofList k)

def raisesInvalid : Except EvalErr RcResult → Bool
  | .error .invalidExpr => true
  | _ => false

/-- `is_valid_expression`: `true` = `(True, None)`, `false` = `(False, reason)` -/
def isValidModel (parts : List Expr) : Bool :=
  (genResults (fcKeysOf parts) (rcKeysOf parts)).all fun fr =>
    parts.all fun t => !raisesInvalid (rcEvaluation (rcEnvOfAssoc fr.2) hintEnvGen t)

theorem raisesInvalid_iff (x : Except EvalErr RcResult) : raisesInvalid x = true ↔ x = .error .invalidExpr := by
  cases x with
  | error e => cases e <;> simp [raisesInvalid]
  | ok r => simp [raisesInvalid]

theorem mem_rcKeysOf (parts : List Expr) (k : List Char) : k ∈ rcKeysOf parts ↔ k ∈ allKeys parts ∧ catOf k = some .rc := by
  rw [rcKeysOf, (sortBy_dedupKeys _ _).2.2, List.mem_filter, beq_iff_eq]

theorem mem_fcKeysOf (parts : List Expr) (k : List Char) : k ∈ fcKeysOf parts ↔ k ∈ allKeys parts ∧ catOf k = some .fc := by
  rw [fcKeysOf, (sortBy_dedupKeys _ _).2.2, List.mem_filter, beq_iff_eq]

theorem rcEnvOfAssoc_of_mem {ra : List (List Char × CFV)} {k : List Char} (h : k ∈ ra.map (·.1)) :
    ∃ p ∈ ra, rcEnvOfAssoc ra k = some p.2 := by
  cases hf : ra.find? (·.1 == k) with
  | some p => exact ⟨p, List.mem_of_find?_eq_some hf, by rw [rcEnvOfAssoc, hf]; rfl⟩
  | none =>
    obtain ⟨q, hq, hqk⟩ := List.mem_map.1 h
    exact absurd (beq_iff_eq.2 hqk) (List.find?_eq_none.1 hf q hq)

/-- **C06 (validity check).** With all parts in the documented domain the check answers `(True, None)` exactly if no part is
structurally invalid. -/
theorem C06_check (parts : List Expr) (hwf : ∀ t ∈ parts, WF t = true) :
    isValidModel parts = parts.all (fun t => !invalidAt t) := by
  have hkeys : ∀ t ∈ parts, ∀ k ∈ condKeys t, k ∈ allKeys parts := fun t ht k hk =>
    List.mem_flatMap.2 ⟨t, ht, hk⟩
  rw [Bool.eq_iff_iff, isValidModel]
  simp only [List.all_eq_true, Bool.not_eq_true']
  by_cases hne : fcKeysOf parts = [] ∧ rcKeysOf parts = []
  · -- no requirement and no format key: nothing is tried, and nothing can be invalid
    rw [hne.1, hne.2]
    refine ⟨fun _ t ht => C06.C06_no_keys (fun k hk => ?_) fun a ha => (WF_atoms (hwf t ht) a ha).imp fun k h => h.1,
      fun _ fr hfr => nomatch hfr⟩
    obtain ⟨_, hk', hs⟩ := WF_atoms (hwf t ht) _ (mem_condKeys.1 hk)
    cases hk'
    obtain ⟨c, hc⟩ := Option.isSome_iff_exists.1 hs
    cases c with
    | hint => exact hc
    | rc => exact absurd ((mem_rcKeysOf parts k).2 ⟨hkeys t ht k hk, hc⟩) (hne.2 ▸ List.not_mem_nil)
    | fc => exact absurd ((mem_fcKeysOf parts k).2 ⟨hkeys t ht k hk, hc⟩) (hne.1 ▸ List.not_mem_nil)
  · obtain ⟨hmem, _⟩ := C18.C18_product_partial (fcKeysOf parts) (rcKeysOf parts) (sortBy_dedupKeys _ _).1 (sortBy_dedupKeys _ _).1 hne
    -- every generated result gives the same answer
    have key : ∀ fr ∈ genResults (fcKeysOf parts) (rcKeysOf parts), ∀ t ∈ parts,
        raisesInvalid (rcEvaluation (rcEnvOfAssoc fr.2) hintEnvGen t) = invalidAt t := by
      intro fr hfr t ht
      have hres := (hmem fr).1 hfr
      have ha : Assigns (rcEnvOfAssoc fr.2) hintEnvGen t := by
        refine ⟨fun k hk hc => ?_, fun k _ _ => ⟨_, rfl⟩⟩
        obtain ⟨p, hp, hpk⟩ := rcEnvOfAssoc_of_mem (hres.2.1 ▸ (mem_rcKeysOf parts k).2 ⟨hkeys t ht k hk, hc⟩)
        refine ⟨p.2, hpk, ?_⟩
        rcases hres.2.2 p hp with h | h | h <;> simp [h]
      rw [Bool.eq_iff_iff, raisesInvalid_iff, C06.C06_evaluation (hwf t ht) ha]
    have hex : ∃ fr, fr ∈ genResults (fcKeysOf parts) (rcKeysOf parts) := by
      refine ⟨((fcKeysOf parts).map fun k => (k, true), (rcKeysOf parts).map fun k => (k, CFV.F)), (hmem _).2 ⟨?_, ?_, ?_⟩⟩
      · simp [List.map_map, Function.comp_def]
      · simp [List.map_map, Function.comp_def]
      · exact List.forall_mem_map.2 fun _ _ => Or.inl rfl
    exact ⟨fun h t ht => hex.elim fun fr hfr => key fr hfr t ht ▸ h fr hfr t ht, fun h fr hfr t ht => (key fr hfr t ht).trans (h t ht)⟩

end Ahbicht.Properties.C06Check

