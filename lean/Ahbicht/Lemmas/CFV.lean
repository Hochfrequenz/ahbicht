import Ahbicht.Model.CFV
/-!
# The four condition states: three commutative monoids with unit NEUTRAL,
monotone in the information order
-/
namespace Ahbicht.CFV

theorem and_comm : ∀ a b : CFV, a.and b = b.and a := by decide
theorem or_comm : ∀ a b : CFV, a.or b = b.or a := by decide
theorem xor_comm : ∀ a b : CFV, a.xor b = b.xor a := by decide

-- 64 cases here, 256 for `*_mono`: left to the kernel alone, `decide` would evaluate them twice
theorem and_assoc : ∀ a b c : CFV, (a.and b).and c = a.and (b.and c) := by decide +kernel
theorem or_assoc : ∀ a b c : CFV, (a.or b).or c = a.or (b.or c) := by decide +kernel
theorem xor_assoc : ∀ a b c : CFV, (a.xor b).xor c = a.xor (b.xor c) := by decide +kernel

theorem and_N : ∀ a : CFV, a.and .N = a := by decide
theorem N_and : ∀ a : CFV, CFV.and .N a = a := by decide
theorem or_N : ∀ a : CFV, a.or .N = a := by decide
theorem N_or : ∀ a : CFV, CFV.or .N a = a := by decide
theorem xor_N : ∀ a : CFV, a.xor .N = a := by decide
theorem N_xor : ∀ a : CFV, CFV.xor .N a = a := by decide

theorem and_eq_N : ∀ x y : CFV, x.and y = .N ↔ x = .N ∧ y = .N := by decide
theorem or_eq_N : ∀ x y : CFV, x.or y = .N ↔ x = .N ∧ y = .N := by decide
theorem xor_eq_N : ∀ x y : CFV, x.xor y = .N ↔ x = .N ∧ y = .N := by decide

theorem and_ofBool : ∀ x y : Bool, (ofBool x).and (ofBool y) = ofBool (x && y) := by decide
theorem or_ofBool : ∀ x y : Bool, (ofBool x).or (ofBool y) = ofBool (x || y) := by decide
theorem xor_ofBool : ∀ x y : Bool, (ofBool x).xor (ofBool y) = ofBool (x != y) := by decide

end Ahbicht.CFV

namespace Ahbicht.Properties.C05
/-- `b` carries at least the information of `a` -/
def le (a b : CFV) : Bool := a == .K || a == b
end Ahbicht.Properties.C05

namespace Ahbicht.CFV
open Properties.C05 (le)

theorem and_mono : ∀ a a' b b' : CFV, le a a' = true → le b b' = true → le (a.and b) (a'.and b') = true := by decide +kernel
theorem or_mono : ∀ a a' b b' : CFV, le a a' = true → le b b' = true → le (a.or b) (a'.or b') = true := by decide +kernel
theorem xor_mono : ∀ a a' b b' : CFV, le a a' = true → le b b' = true → le (a.xor b) (a'.xor b') = true := by decide +kernel
theorem le_refl : ∀ a : CFV, le a a = true := by decide
theorem le_definite : ∀ a b : CFV, le a b = true → a ≠ .K → b = a := by decide
theorem le_of_refines : ∀ a a' : CFV, Refines a' a → le a a' = true := by decide

end Ahbicht.CFV
