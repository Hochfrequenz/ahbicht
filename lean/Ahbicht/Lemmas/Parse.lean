import Ahbicht.Model.Parse
/-!
# Chain assembly (`asm`) and the bracket-stack machine
-/
namespace Ahbicht

theorem argsFor_node_self (o : Op) (as : List NExpr) : (NExpr.node o as).argsFor o = as := by
  simp [NExpr.argsFor]

theorem flat_foldBin_ne (o : Op) (e : Expr) (es : List Expr) (hne : es ≠ []) :
    (foldBin o e es).flat = .node o (e.flat.argsFor o ++ es.flatMap (fun y => y.flat.argsFor o)) := by
  induction es generalizing e with
  | nil => exact absurd rfl hne
  | cons x xs ih =>
    cases xs with
    | nil => simp [foldBin, Expr.flat]
    | cons y ys =>
      rw [foldBin, ih _ (List.cons_ne_nil _ _)]
      simp [Expr.flat, argsFor_node_self, List.append_assoc]

theorem flat_foldBin (o : Op) (e : Expr) (es : List Expr) :
    ((foldBin o e es).flat).argsFor o =
      e.flat.argsFor o ++ es.flatMap (fun x => x.flat.argsFor o) := by
  cases es with
  | nil => simp [foldBin]
  | cons x xs => rw [flat_foldBin_ne _ _ _ (List.cons_ne_nil _ _), argsFor_node_self]

/-- the `[]` branch in `splitTail` and `asm` is never taken -/
theorem splitTail_eq_cons (o : Op) (h : Expr) (t : List (Op × Expr)) : ∃ c cs, splitTail o h t = c :: cs := by
  cases t with
  | nil => exact ⟨_, _, rfl⟩
  | cons p rest =>
    simp only [splitTail]
    split
    · exact ⟨_, _, rfl⟩
    · split <;> exact ⟨_, _, rfl⟩

theorem splitTail_absent (o : Op) (h : Expr) (t : List (Op × Expr)) (hno : ∀ p ∈ t, p.1 ≠ o) :
    splitTail o h t = [(h, t)] := by
  induction t generalizing h with
  | nil => simp [splitTail]
  | cons p rest ih =>
    obtain ⟨s, x⟩ := p
    obtain ⟨hs : s ≠ o, hrest⟩ := List.forall_mem_cons.1 hno
    simp [splitTail, hs, ih x hrest]

theorem splitTail_join (o : Op) (h : Expr) (t : List (Op × Expr)) (h' : Expr) (t' : List (Op × Expr)) :
    splitTail o h (t ++ (o, h') :: t') = splitTail o h t ++ splitTail o h' t' := by
  induction t generalizing h with
  | nil => simp [splitTail]
  | cons p rest ih =>
    obtain ⟨s, x⟩ := p
    simp only [List.cons_append, splitTail]
    split
    · simp [ih]
    · rw [ih]
      obtain ⟨⟨a, b⟩, cs, hsp⟩ := splitTail_eq_cons o x rest
      simp [hsp]

def join (cl : Chain) (o : Op) (cr : Chain) : Chain := (cl.1, cl.2 ++ (o, cr.1) :: cr.2)

/-- every separator binds at least as tight as precedence `p` -/
def tightP (p : Nat) (c : Chain) : Prop := ∀ s ∈ c.2, p ≤ s.1.prec

abbrev tight (o : Op) (c : Chain) : Prop := tightP o.prec c

/-- `c` is a way of writing `e` as a chain of already assembled items -/
inductive Renders : Expr → Chain → Prop
  | item (e : Expr) : Renders e (e, [])
  | bin {l r cl cr} (o : Op) : Renders l cl → Renders r cr → tight o cl → tight o cr →
      Renders (.bin o l r) (join cl o cr)

theorem asm_skip (o : Op) (os : List Op) (c : Chain) (hno : ∀ p ∈ c.2, p.1 ≠ o) :
    asm (o :: os) c = asm os c := by
  obtain ⟨h, t⟩ := c
  simp [asm, split, splitTail_absent o h t hno, foldBin]

theorem foldBin_concat (o : Op) (e : Expr) (es : List Expr) (x : Expr) :
    foldBin o e (es ++ [x]) = .bin o (foldBin o e es) x := by
  induction es generalizing e with
  | nil => rfl
  | cons y ys ih => exact ih _

/-- `asm` cuts at the last occurrence of the level's operator -/
theorem asm_snoc (o : Op) (os : List Op) (cl cr : Chain) (hno : ∀ p ∈ cr.2, p.1 ≠ o) :
    asm (o :: os) (join cl o cr) = .bin o (asm (o :: os) cl) (asm os cr) := by
  obtain ⟨hl, tl⟩ := cl
  obtain ⟨hr, tr⟩ := cr
  obtain ⟨a, as, hsl⟩ := splitTail_eq_cons o hl tl
  simp only [asm, split, join, splitTail_join, splitTail_absent o hr tr hno, hsl, List.map_append, List.map_cons,
    List.map_nil, List.cons_append, foldBin_concat]

theorem asm_induct {P : List Op → Chain → Prop} (nil : ∀ c, P [] c)
    (skip : ∀ o os c, (∀ p ∈ c.2, p.1 ≠ o) → P os c → P (o :: os) c)
    (snoc : ∀ o os cl cr, (∀ p ∈ cr.2, p.1 ≠ o) → P (o :: os) cl → P os cr → P (o :: os) (join cl o cr)) :
    ∀ os c, P os c := by
  intro os
  induction os with
  | nil => exact nil
  | cons o os ih =>
    -- the separators read from the right; `tr`: those behind the last `o` met so far
    have key : ∀ (h : Expr) (r tr : List (Op × Expr)), (∀ p ∈ tr, p.1 ≠ o) → P (o :: os) (h, r.reverse ++ tr) := by
      intro h r
      induction r with
      | nil => exact fun tr hno => skip o os _ hno (ih _)
      | cons p r ihr =>
        obtain ⟨s, x⟩ := p
        intro tr hno
        rw [List.reverse_cons, List.append_assoc]
        by_cases hs : s = o
        · subst hs
          exact snoc s os (h, r.reverse) (x, tr) hno (by simpa using ihr [] (fun _ h => nomatch h)) (ih _)
        · exact ihr ((s, x) :: tr) (List.forall_mem_cons.2 ⟨hs, hno⟩)
    exact fun c => by simpa using key c.1 c.2.reverse [] (fun _ h => nomatch h)

theorem asm_join (o : Op) (os : List Op) (cl cr : Chain) :
    (asm (o :: os) (join cl o cr)).flat =
      .node o ((asm (o :: os) cl).flat.argsFor o ++ (asm (o :: os) cr).flat.argsFor o) := by
  obtain ⟨hl, tl⟩ := cl
  obtain ⟨hr, tr⟩ := cr
  obtain ⟨a, as, hsl⟩ := splitTail_eq_cons o hl tl
  obtain ⟨b, bs, hsr⟩ := splitTail_eq_cons o hr tr
  simp only [asm, split, join, splitTail_join, hsl, hsr, List.cons_append, List.map_cons, List.map_append]
  rw [flat_foldBin_ne _ _ _ (by simp), flat_foldBin, flat_foldBin]
  simp [List.flatMap_append, List.append_assoc]

theorem tightP_join {p : Nat} {cl cr : Chain} {o : Op} (hl : tightP p cl) (hr : tightP p cr) (ho : p ≤ o.prec) :
    tightP p (join cl o cr) :=
  List.forall_mem_append.2 ⟨hl, List.forall_mem_cons.2 ⟨ho, hr⟩⟩

theorem asm_drop {p : Nat} {c : Chain} (ht : tightP p c) (os₂ : List Op) :
    ∀ {os₁ : List Op}, (∀ o ∈ os₁, o.prec < p) → asm (os₁ ++ os₂) c = asm os₂ c
  | [], _ => rfl
  | o :: os₁, h => by
    obtain ⟨ho, h⟩ := List.forall_mem_cons.1 h
    rw [List.cons_append, asm_skip _ _ _ fun s hs heq => by have := ht s hs; rw [heq] at this; omega]
    exact asm_drop ht os₂ h

theorem build_item (e : Expr) : build (e, []) = e := rfl

theorem build_join {o : Op} {cl cr : Chain} (tl : tight o cl) (tr : tight o cr) :
    (build (join cl o cr)).flat = .node o ((build cl).flat.argsFor o ++ (build cr).flat.argsFor o) := by
  unfold build
  -- `levels` is sorted by precedence: cut it in front of `o`
  obtain ⟨os₁, os₂, hl, hlt⟩ : ∃ os₁ os₂, levels = os₁ ++ o :: os₂ ∧ ∀ o' ∈ os₁, o'.prec < o.prec := by
    cases o
    · exact ⟨[], _, rfl, by decide⟩
    · exact ⟨[.or_], _, rfl, by decide⟩
    · exact ⟨[.or_, .xor_], _, rfl, by decide⟩
    · exact ⟨[.or_, .xor_, .and_], _, rfl, by decide⟩
  rw [hl, asm_drop (tightP_join tl tr (Nat.le_refl _)) _ hlt, asm_drop tl _ hlt, asm_drop tr _ hlt]
  exact asm_join _ _ _ _

theorem asm_renders {e : Expr} {c : Chain} (h : Renders e c) : (build c).flat = e.flat := by
  induction h with
  | item e => rw [build_item]
  | bin o _ _ tl tr ihl ihr => rw [build_join tl tr, ihl, ihr]; rfl

/-! `Chains c ts`: `ts` read by the grammar of `Lang`, with the chain the machine appends to the open bracket.
The theorems about the parser reach `stepTok`/`runToks` through `Chains.run` and `chains_of_run` (from `step_inv`). -/

theorem runToks_append (fs : List Frame) (a b : List Tok) :
    runToks fs (a ++ b) = (runToks fs a).bind (fun fs' => runToks fs' b) := by
  induction a generalizing fs with
  | nil => rfl
  | cons t a ih => simp only [List.cons_append, runToks, Option.bind_assoc, ih]

inductive Chains : Chain → List Tok → Prop
  | atom (a : Atom) : Chains (.leaf a, []) [.atom a]
  | paren {c ts} : Chains c ts → Chains (build c, []) (.lp :: ts ++ [.rp])
  | binop {cl cr l r} (o : Op3) : Chains cl l → Chains cr r → Chains (join cl o.toOp cr) (l ++ .op o :: r)
  | juxt {cl cr l r} : Chains cl l → Chains cr r → Chains (join cl .then_ cr) (l ++ r)

def Frame.ext : Frame → Chain → Chain
  | .empty, c => c
  | .item c0, c => join c0 .then_ c
  | .pend c0 o, c => join c0 o c

@[simp] theorem Frame.ext_empty (c : Chain) : Frame.empty.ext c = c := rfl
@[simp] theorem Frame.ext_item (c0 c : Chain) : (Frame.item c0).ext c = join c0 .then_ c := rfl
@[simp] theorem Frame.ext_pend (c0 : Chain) (o : Op) (c : Chain) : (Frame.pend c0 o).ext c = join c0 o c := rfl

theorem Frame.push_eq (f : Frame) (e : Expr) : f.push e = .item (f.ext (e, [])) := by
  cases f <;> rfl

theorem Frame.ext_join (f : Frame) (a : Chain) (o : Op) (b : Chain) : join (f.ext a) o b = f.ext (join a o b) := by
  cases f <;> simp [join, List.append_assoc]

theorem Chains.run {c : Chain} {ts : List Tok} (h : Chains c ts) :
    ∀ (f : Frame) (st : List Frame), runToks (f :: st) ts = some (.item (f.ext c) :: st) := by
  induction h with
  | atom a => intro f st; simp [runToks, stepTok, Frame.push_eq]
  | paren _ ih =>
    intro f st
    simp only [List.cons_append, runToks, stepTok, Option.bind_some, runToks_append, ih, Frame.push_eq, Frame.ext_empty]
  | binop o _ _ ihl ihr =>
    intro f st
    simp only [runToks_append, ihl, runToks, stepTok, Option.bind_some, ihr, Frame.ext_pend, Frame.ext_join]
  | juxt _ _ ihl ihr =>
    intro f st
    simp only [runToks_append, ihl, Option.bind_some, ihr, Frame.ext_item, Frame.ext_join]

/-- the tokens read since the frame's bracket was opened -/
def FrameToks : Frame → List Tok → Prop
  | .empty, w => w = []
  | .item c, w => Chains c w
  | .pend c o, w => ∃ w' o3, w = w' ++ [Tok.op o3] ∧ o3.toOp = o ∧ Chains c w'

theorem FrameToks.ext {f : Frame} {w : List Tok} (hf : FrameToks f w) {c : Chain} {v : List Tok} (hc : Chains c v) :
    Chains (f.ext c) (w ++ v) := by
  cases f with
  | empty => cases hf; exact hc
  | item c0 => exact .juxt hf hc
  | pend c0 o =>
    obtain ⟨w', o3, rfl, rfl, h0⟩ := hf
    simpa using Chains.binop o3 h0 hc

inductive RestToks : List Frame → List Tok → Prop
  | nil : RestToks [] []
  | cons {g wg st ws} : FrameToks g wg → RestToks st ws → RestToks (g :: st) (ws ++ wg ++ [.lp])

/-- the tokens consumed so far, cut at the brackets still open -/
def StackToks : List Frame → List Tok → Prop
  | [], _ => False
  | f :: st, w => ∃ pre wf, w = pre ++ wf ∧ RestToks st pre ∧ FrameToks f wf

theorem step_inv {fs fs' : List Frame} {t : Tok} {w : List Tok} (hs : StackToks fs w)
    (h : stepTok fs t = some fs') : StackToks fs' (w ++ [t]) := by
  cases fs with
  | nil => exact hs.elim
  | cons f st =>
    obtain ⟨pre, wf, rfl, hrest, hf⟩ := hs
    cases t with
    | atom a =>
      cases h
      exact ⟨pre, wf ++ [.atom a], by simp, hrest, by rw [Frame.push_eq]; exact hf.ext (.atom a)⟩
    | op o =>
      cases f <;> cases h
      exact ⟨pre, wf ++ [.op o], by simp, hrest, wf, o, rfl, rfl, hf⟩
    | lp =>
      cases h
      exact ⟨pre ++ wf ++ [.lp], [], by simp, .cons hf hrest, rfl⟩
    | rp =>
      cases hrest with
      | nil => cases f <;> cases h
      | @cons g wg st ws hg hr =>
        cases f <;> cases h
        exact ⟨ws, wg ++ (.lp :: wf ++ [.rp]), by simp, hr, by rw [Frame.push_eq]; exact hg.ext (.paren hf)⟩

theorem run_inv {ts : List Tok} {fs fs' : List Frame} {w : List Tok} (hs : StackToks fs w)
    (h : runToks fs ts = some fs') : StackToks fs' (w ++ ts) := by
  induction ts generalizing fs w with
  | nil => cases h; simpa using hs
  | cons t ts ih =>
    obtain ⟨fs1, hst, h⟩ := Option.bind_eq_some_iff.1 h
    simpa using ih (step_inv hs hst) h

theorem chains_of_run {ts : List Tok} {c : Chain} (h : runToks [.empty] ts = some [.item c]) : Chains c ts :=
  match run_inv (fs := [.empty]) (w := []) ⟨[], [], rfl, .nil, rfl⟩ h with
  | ⟨_, _, heq, .nil, hf⟩ => by obtain rfl : ts = _ := heq; exact hf

theorem parseToks_iff {ts : List Tok} {e : Expr} : parseToks ts = some e ↔ ∃ c, Chains c ts ∧ build c = e := by
  constructor
  · intro h
    unfold parseToks at h
    split at h
    · rename_i c hrun
      cases h
      exact ⟨c, chains_of_run hrun, rfl⟩
    · cases h
  · rintro ⟨c, hc, rfl⟩
    simp [parseToks, hc.run]

end Ahbicht
