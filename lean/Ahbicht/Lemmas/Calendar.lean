import Ahbicht.Model.Iso
/-!
# The calendar: `civilFromDays` inverts `daysFromCivil` from 0000-03-01 on

A day of the era is `doe = 36524 * c + 1461 * q + s`: century, four-year cycle, day of the cycle, counted from 1 March.  The lemmas are
about variables and are handed that decomposition: `omega` reads every hypothesis in sight and cannot find the quotients of the year
formula from `doe` alone.
-/
namespace Ahbicht

theorem exists_div_mod (a : Int) {b : Int} (hb : 0 < b) : ∃ q r, a / b = q ∧ a = r + q * b ∧ 0 ≤ r ∧ r < b :=
  ⟨_, a % b, rfl, (Int.emod_add_ediv_mul a b).symm, Int.emod_nonneg _ (Int.ne_of_gt hb), Int.emod_lt_of_pos _ hb⟩

theorem year_in_cycle (s k : Int) (hs0 : 0 ≤ s) (hs : s ≤ 1460) (hk : k = min (s / 365) 3) :
    0 ≤ k ∧ k ≤ 3 ∧ 0 ≤ s - 365 * k ∧ s - 365 * k ≤ 365 ∧ (s - 365 * k = 365 → k = 3 ∧ s = 1460) := by
  omega

/-- `doe / 1460 - c` is the number `24 * c + q` of leap days gone by, or one more late in the fourth year and always on its 366th day:
hence the quotient by 365.  Bounds: `400 * doe - 146097 * yoe = 400 * (s - 365 * k) - 100 * c + 12 * q - 97 * k`. -/
theorem year_of_cycle (c q s k doe yoe : Int) (hc0 : 0 ≤ c) (hc : c ≤ 3) (hq0 : 0 ≤ q) (hq : q ≤ 24)
    (hk0 : 0 ≤ k) (hk3 : k ≤ 3) (hd0 : 0 ≤ s - 365 * k) (hd1 : s - 365 * k ≤ 365) (hd : s - 365 * k = 365 → k = 3)
    (hdoe : doe = s + q * 1461 + c * 36524) (hy : yoe = 100 * c + 4 * q + k) :
    (doe - doe / 1460 + c) / 365 = yoe ∧ s - 365 * k = doe - (365 * yoe + yoe / 4 - yoe / 100) ∧ 0 ≤ yoe ∧ yoe ≤ 399 ∧
      -591 ≤ 400 * doe - 146097 * yoe ∧ 400 * doe - 146097 * yoe ≤ 146288 := by
  omega

theorem leap_of_cycle (era c q : Int) (he : 0 ≤ era) (hc0 : 0 ≤ c) (hq0 : 0 ≤ q) (hq : q ≤ 24) (hl : q < 24 ∨ c = 3) :
    isLeapYear (100 * c + 4 * q + 3 + era * 400 + 1).toNat = true := by
  simp only [isLeapYear, Bool.and_eq_true, Bool.or_eq_true, beq_iff_eq, bne_iff_ne]
  omega

/-- `doe / 36524` is 4 on the last day of the era; `doe / 146096` takes that back -/
theorem era_split (doe : Int) (h0 : 0 ≤ doe) (h1 : doe ≤ 146096) :
    ∃ c q s : Int, (0 ≤ c ∧ c ≤ 3 ∧ 0 ≤ q ∧ q ≤ 24 ∧ 0 ≤ s ∧ s ≤ 1460 ∧ (s = 1460 → q < 24 ∨ c = 3)) ∧
      doe = s + q * 1461 + c * 36524 ∧ doe / 36524 - doe / 146096 = c := by
  by_cases h : doe = 146096
  · subst h; exact ⟨3, 24, 1460, by decide⟩
  · obtain ⟨c, r, hc, hr, hr0, hr1⟩ := exists_div_mod doe (b := 36524) (by decide)
    obtain ⟨q, s, -, hs, hs0, hs1⟩ := exists_div_mod r (b := 1461) (by decide)
    refine ⟨c, q, s, by omega, by rw [hr, hs], ?_⟩
    rw [hc, Int.ediv_eq_zero_of_lt h0 (Int.lt_iff_le_and_ne.2 ⟨h1, h⟩), Int.sub_zero]

theorem yearOfEra_spec (era doe : Int) (he : 0 ≤ era) (h0 : 0 ≤ doe) (h1 : doe ≤ 146096) :
    ∃ yoe doy : Int, yoe = (doe - doe / 1460 + doe / 36524 - doe / 146096) / 365 ∧ doy = doe - (365 * yoe + yoe / 4 - yoe / 100) ∧
      0 ≤ yoe ∧ yoe ≤ 399 ∧ -591 ≤ 400 * doe - 146097 * yoe ∧ 400 * doe - 146097 * yoe ≤ 146288 ∧
      0 ≤ doy ∧ doy ≤ 365 ∧ (doy = 365 → isLeapYear (yoe + era * 400 + 1).toNat = true) := by
  obtain ⟨c, q, s, ⟨hc0, hc, hq0, hq, hs0, hs, hl⟩, hdoe, hbe⟩ := era_split doe h0 h1
  obtain ⟨hk0, hk3, hd0, hd1, hd365⟩ := year_in_cycle s _ hs0 hs rfl
  obtain ⟨hy, hdoy, hyb⟩ := year_of_cycle c q s _ doe _ hc0 hc hq0 hq hk0 hk3 hd0 hd1 (fun h => (hd365 h).1) hdoe rfl
  refine ⟨_, _, by rw [Int.add_sub_assoc, hbe, hy], hdoy, hyb.1, hyb.2.1, hyb.2.2.1, hyb.2.2.2, hd0, hd1, fun h => ?_⟩
  rw [(hd365 h).1]
  exact leap_of_cycle era c q he hc0 hq0 hq (hl (hd365 h).2)

theorem month_spec (doy : Int) (h0 : 0 ≤ doy) (h1 : doy ≤ 365) :
    ∃ mp m d : Int, mp = (5 * doy + 2) / 153 ∧ m = (if mp < 10 then mp + 3 else mp - 9) ∧ d = doy - (153 * mp + 2) / 5 + 1 ∧
      1 ≤ m ∧ m ≤ 12 ∧ (m + 9) % 12 = mp ∧ 1 ≤ d ∧ d ≤ 31 ∧
      (m.toNat = 4 ∨ m.toNat = 6 ∨ m.toNat = 9 ∨ m.toNat = 11 → d ≤ 30) ∧ (m.toNat = 2 → m ≤ 2 ∧ (d ≤ 28 ∨ d ≤ 29 ∧ doy = 365)) :=
  ⟨_, _, _, rfl, rfl, rfl, by omega⟩

theorem le_daysInMonth {y m : Nat} {d : Int} (h31 : d ≤ 31) (h30 : m = 4 ∨ m = 6 ∨ m = 9 ∨ m = 11 → d ≤ 30)
    (hf : m = 2 → d ≤ 28 ∨ d ≤ 29 ∧ isLeapYear y = true) : d.toNat ≤ daysInMonth y m := by
  rw [Int.toNat_le]
  unfold daysInMonth
  split
  · next h =>
    rcases hf (beq_iff_eq.1 h) with h | ⟨h, hl⟩
    · split
      · exact Int.le_trans h (by decide)
      · exact h
    · rw [if_pos hl]; exact h
  · split
    · next h => exact h30 (by simpa [or_assoc] using h)
    · exact h31

theorem daysFromCivil_of (z era doe yoe doy mp y m d : Int) (hn : z + 719468 = doe + era * 146097) (he : 0 ≤ era) (h0 : 0 ≤ yoe)
    (h1 : yoe ≤ 399) (hdoy : doy = doe - (365 * yoe + yoe / 4 - yoe / 100)) (hd : d = doy - (153 * mp + 2) / 5 + 1) (hm : (m + 9) % 12 = mp)
    (hy : (if m ≤ 2 then y - 1 else y) = yoe + era * 400) : daysFromCivil y m d = z := by
  have h400 : (yoe + era * 400) / 400 = era := by
    rw [Int.add_mul_ediv_right _ _ (by decide : (400 : Int) ≠ 0), Int.ediv_eq_zero_of_lt h0 (show yoe < 400 from Int.lt_add_one_iff.2 h1),
      Int.zero_add]
  simp only [daysFromCivil, hy, hm, ge_iff_le, if_pos (Int.add_nonneg h0 (Int.mul_nonneg he (by decide : (0 : Int) ≤ 400))), h400,
    Int.add_sub_cancel]
  omega

theorem year_bracket (z era doe yoe m y : Int) (hn : z + 719468 = doe + era * 146097) (h0 : -591 ≤ 400 * doe - 146097 * yoe)
    (h1 : 400 * doe - 146097 * yoe ≤ 146288) (hy : y = if m ≤ 2 then yoe + era * 400 + 1 else yoe + era * 400) :
    146097 * (y - 1) - 591 ≤ 400 * (z + 719468) ∧ 400 * (z + 719468) ≤ 146097 * y + 146288 := by
  omega

/-- before 0000-03-01 the model's era, computed with floor division, is not Hinnant's -/
theorem civilFromDays_spec (z : Int) (hz : -719468 ≤ z) :
    let c := civilFromDays z
    daysFromCivil c.1 c.2.1 c.2.2 = z ∧ 1 ≤ c.2.1 ∧ c.2.1 ≤ 12 ∧ 1 ≤ c.2.2 ∧ c.2.2.toNat ≤ daysInMonth c.1.toNat c.2.1.toNat ∧
      146097 * (c.1 - 1) - 591 ≤ 400 * (z + 719468) ∧ 400 * (z + 719468) ≤ 146097 * c.1 + 146288 := by
  have hn0 : 0 ≤ z + 719468 := by omega
  obtain ⟨era, doe, hera, hn, hd0, hd1⟩ := exists_div_mod (z + 719468) (b := 146097) (by decide)
  have hdoe : z + 719468 - era * 146097 = doe := by rw [hn, Int.add_sub_cancel]
  have he : 0 ≤ era := hera ▸ Int.ediv_nonneg hn0 (by decide)
  obtain ⟨yoe, doy, hyoe, hdoy, hy0, hy1, hb0, hb1, hdy0, hdy1, hleap⟩ := yearOfEra_spec era doe he hd0 (Int.lt_add_one_iff.1 hd1)
  obtain ⟨mp, m, d, hmp, hm, hd, hm1, hm12, hmm, hd1', hd31, h30, hf⟩ := month_spec doy hdy0 hdy1
  have hc : civilFromDays z = (if m ≤ 2 then yoe + era * 400 + 1 else yoe + era * 400, m, d) := by
    simp only [civilFromDays, ge_iff_le, if_pos hn0, hera, hdoe, ← hyoe, ← hdoy, ← hmp, ← hm, ← hd]
  simp only [hc]
  exact ⟨daysFromCivil_of z era doe yoe doy mp _ m d hn he hy0 hy1 hdoy hd hmm
      (by by_cases h : m ≤ 2 <;> simp only [h, if_true, if_false, Int.add_sub_cancel]), hm1, hm12, hd1',
    le_daysInMonth hd31 h30 fun h => (hf h).2.imp_right fun h' => ⟨h'.1, by rw [if_pos (hf h).1]; exact hleap h'.2⟩,
    year_bracket z era doe yoe m _ hn hb0 hb1 rfl⟩

end Ahbicht
