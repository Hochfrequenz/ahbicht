import Ahbicht.Lemmas.Parse
import Ahbicht.Model.Resolve
/-!
# Substituting tokens for atoms commutes with parsing
-/
namespace Ahbicht

def mapChain (g : Expr → Expr) (c : Chain) : Chain := (g c.1, c.2.map fun p => (p.1, g p.2))

/-- what `asm_map` needs of a map on items -/
def Hom (g : Expr → Expr) : Prop := ∀ o l r, g (.bin o l r) = .bin o (g l) (g r)

theorem bind_hom (σ : Atom → Expr) : Hom (Expr.bind σ) := fun _ _ _ => rfl

theorem mapChain_join (g : Expr → Expr) (a : Chain) (o : Op) (b : Chain) :
    mapChain g (join a o b) = join (mapChain g a) o (mapChain g b) := by
  simp [mapChain, join]

theorem asm_map {g : Expr → Expr} (hg : Hom g) : ∀ (os : List Op) (c : Chain), asm os (mapChain g c) = g (asm os c) := by
  have hm : ∀ {c : Chain} {o : Op}, (∀ p ∈ c.2, p.1 ≠ o) → ∀ p ∈ (mapChain g c).2, p.1 ≠ o :=
    fun h => List.forall_mem_map.2 h
  apply asm_induct
  · intro c; rfl
  · intro o os c hno ih
    rw [asm_skip _ _ _ hno, asm_skip _ _ _ (hm hno), ih]
  · intro o os cl cr hno ihl ihr
    rw [mapChain_join, asm_snoc _ _ _ _ hno, asm_snoc _ _ _ _ (hm hno), ihl, ihr, hg]

theorem build_map {g : Expr → Expr} (hg : Hom g) (c : Chain) : build (mapChain g c) = g (build c) :=
  asm_map hg levels c

def substToks (τ : Atom → List Tok) : List Tok → List Tok
  | [] => []
  | .atom a :: ts => τ a ++ substToks τ ts
  | t :: ts => t :: substToks τ ts

/-- the replacement tokens of `a` behave like one item `σ a` -/
def Realises (τ : Atom → List Tok) (σ : Atom → Expr) : Prop :=
  ∀ a f st, runToks (f :: st) (τ a) = some (f.push (σ a) :: st)

theorem substToks_append (τ : Atom → List Tok) (a b : List Tok) :
    substToks τ (a ++ b) = substToks τ a ++ substToks τ b := by
  induction a with
  | nil => rfl
  | cons t a ih => cases t <;> simp [substToks, ih]

theorem Chains.subst {τ : Atom → List Tok} {σ : Atom → Expr} (H : ∀ a, Chains (σ a, []) (τ a)) {c : Chain} {ts : List Tok}
    (h : Chains c ts) : Chains (mapChain (Expr.bind σ) c) (substToks τ ts) := by
  induction h with
  | atom a => simpa [substToks, mapChain, Expr.bind] using H a
  | @paren c ts _ ih =>
    have := Chains.paren ih
    rw [build_map (bind_hom σ)] at this
    simpa [substToks, substToks_append, mapChain] using this
  | binop o _ _ ihl ihr => simpa [substToks, substToks_append, mapChain_join] using Chains.binop o ihl ihr
  | juxt _ _ ihl ihr => simpa [substToks_append, mapChain_join] using Chains.juxt ihl ihr

theorem realises_iff {τ : Atom → List Tok} {σ : Atom → Expr} : Realises τ σ ↔ ∀ a, Chains (σ a, []) (τ a) :=
  ⟨fun H a => chains_of_run (H a .empty []), fun H a f st => by rw [Frame.push_eq]; exact (H a).run f st⟩

/-- exactly, not only modulo `flat` -/
theorem parse_subst {τ : Atom → List Tok} {σ : Atom → Expr} (H : Realises τ σ) {ts : List Tok} {e : Expr}
    (h : parseToks ts = some e) : parseToks (substToks τ ts) = some (e.bind σ) := by
  obtain ⟨c, hc, rfl⟩ := parseToks_iff.1 h
  exact parseToks_iff.2 ⟨_, hc.subst (realises_iff.1 H), build_map (bind_hom σ) c⟩

theorem chains_bracketed {bt : List Tok} {be : Expr} (h : parseToks bt = some be) : Chains (be, []) (.lp :: bt ++ [.rp]) := by
  obtain ⟨c, hc, rfl⟩ := parseToks_iff.1 h
  exact .paren hc

theorem atoms_bind (σ : Atom → Expr) (e : Expr) : (e.bind σ).atoms = e.atoms.flatMap (fun a => (σ a).atoms) := by
  induction e with
  | leaf a => simp [Expr.bind, Expr.atoms]
  | bin o l r ihl ihr => simp [Expr.bind, Expr.atoms, ihl, ihr]

end Ahbicht
