import Ahbicht.Model.Val
import Ahbicht.Lemmas.Except
/-!
# Facts about the three extracted tables of `validation.py` (all decided by the kernel on the generated data)
-/
namespace Ahbicht
open Generated

/-- the three statuses of segment-level nodes -/
def RVV.isBase : RVV → Bool
  | .IS_REQUIRED | .IS_FORBIDDEN | .IS_OPTIONAL => true
  | _ => false

/-- parent statuses that can occur: none at the top, otherwise a base status -/
def okParent : Option RVV → Bool
  | none => true
  | some p => p.isBase

instance decForallRVV {p : RVV → Prop} [DecidablePred p] : Decidable (∀ a, p a) :=
  decidable_of_iff (p .IS_REQUIRED ∧ p .IS_FORBIDDEN ∧ p .IS_OPTIONAL ∧ p .IS_REQUIRED_AND_EMPTY ∧ p .IS_REQUIRED_AND_FILLED ∧
      p .IS_FORBIDDEN_AND_EMPTY ∧ p .IS_FORBIDDEN_AND_FILLED ∧ p .IS_OPTIONAL_AND_EMPTY ∧ p .IS_OPTIONAL_AND_FILLED)
    ⟨fun ⟨a, b, c, d, e, f, g, h, i⟩ x => by cases x <;> assumption,
     fun h => ⟨h _, h _, h _, h _, h _, h _, h _, h _, h _⟩⟩

instance decForallInd {p : Ind → Prop} [DecidablePred p] : Decidable (∀ a, p a) :=
  decidable_of_iff (p .MUSS ∧ p .SOLL ∧ p .KANN ∧ p .X ∧ p .O ∧ p .U)
    ⟨fun ⟨a, b, c, d, e, f⟩ x => by cases x <;> assumption, fun h => ⟨h _, h _, h _, h _, h _, h _⟩⟩

instance decForallOption {α : Type} {p : Option α → Prop} [Decidable (p none)] [Decidable (∀ a, p (some a))] :
    Decidable (∀ o, p o) :=
  decidable_of_iff _ Option.forall.symm

/-- the documented mapping (SOLL read through the flag) -/
def mapSpec (fulfilled : Option Bool) (ind : Ind) (soll : Bool) : TRes :=
  let ind' := if ind = .SOLL then (if soll then Ind.MUSS else Ind.KANN) else ind
  match fulfilled, ind' with
  | some false, _ => .val .IS_FORBIDDEN
  | none, .KANN => .val .IS_OPTIONAL
  | none, _ => .notImplemented
  | some true, .KANN => .val .IS_OPTIONAL
  | some true, _ => .val .IS_REQUIRED

/-- the documented table -/
def combineSpec (parent : Option RVV) (child : RVV) : TRes :=
  match parent with
  | none => .val child
  | some .IS_REQUIRED => .val child
  | some .IS_OPTIONAL => if child = .IS_REQUIRED then .val .IS_OPTIONAL else .val child
  | some _ => .valueError

theorem mapOwn_eq_spec : ∀ (f : Option Bool) (i : Ind) (s : Bool), mapOwn f i s = mapSpec f i s := by decide +kernel
theorem combine_eq_spec : ∀ (p : Option RVV) (c : RVV), combine p c = combineSpec p c := by decide +kernel

theorem suffix_base : ∀ (b : RVV) (f : Bool), b.isBase = true → Sat (liftT (withSuffix b f)) (fun _ => True) fun _ => False := by decide +kernel

end Ahbicht
