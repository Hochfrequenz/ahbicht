import Ahbicht.Model.Extract
/-!
# The list functions of `Model/Extract`; `assignments` enumerates the Cartesian product `productSpec`
-/
namespace Ahbicht

theorem dedupKeys_sublist {α : Type} [DecidableEq α] (l : List α) : (dedupKeys l).Sublist l := by
  induction l with
  | nil => exact .slnil
  | cons x xs ih => exact (List.filter_sublist.trans ih).cons_cons x

theorem mem_dedupKeys {α : Type} [DecidableEq α] (l : List α) (x : α) : x ∈ dedupKeys l ↔ x ∈ l := by
  induction l with
  | nil => simp [dedupKeys]
  | cons y ys ih =>
    simp only [dedupKeys, List.mem_cons, List.mem_filter, ih]
    by_cases h : x = y <;> simp [h]

theorem nodup_dedupKeys {α : Type} [DecidableEq α] (l : List α) : (dedupKeys l).Nodup := by
  induction l with
  | nil => simp [dedupKeys]
  | cons y ys ih => exact List.nodup_cons.2 ⟨by simp [List.mem_filter], ih.filter _⟩

theorem dedupKeys_of_nodup {α : Type} [DecidableEq α] (l : List α) (hl : l.Nodup) : dedupKeys l = l := by
  induction l with
  | nil => rfl
  | cons x xs ih =>
    rw [List.nodup_cons] at hl
    rw [dedupKeys, ih hl.2, List.filter_eq_self.2]
    intro a ha
    simp only [ne_eq, decide_eq_true_eq]
    rintro rfl
    exact hl.1 ha

theorem nodup_of_dedupKeys_length {α : Type} [DecidableEq α] (l : List α)
    (h : (dedupKeys l).length = l.length) : l.Nodup :=
  (dedupKeys_sublist l).eq_of_length h ▸ nodup_dedupKeys l

theorem insertBy_perm {α : Type} (f : α → Nat) (x : α) (l : List α) : (insertBy f x l).Perm (x :: l) := by
  fun_induction insertBy f x l with
  | case1 => exact .refl _
  | case2 => exact .refl _
  | case3 y ys _ ih => exact (ih.cons y).trans (.swap x y ys)

theorem sortBy_perm {α : Type} (f : α → Nat) (l : List α) : (sortBy f l).Perm l := by
  induction l with
  | nil => exact List.Perm.refl _
  | cons x xs ih => exact (insertBy_perm f x _).trans (List.Perm.cons x ih)

theorem insertBy_sorted {α : Type} (f : α → Nat) (x : α) (l : List α) (h : l.Pairwise (fun a b => f a ≤ f b)) :
    (insertBy f x l).Pairwise (fun a b => f a ≤ f b) := by
  fun_induction insertBy f x l with
  | case1 => exact List.pairwise_singleton _ _
  | case2 y ys hxy =>
    refine List.pairwise_cons.2 ⟨fun z hz => ?_, h⟩
    rcases List.mem_cons.1 hz with rfl | hz
    · exact hxy
    · exact Nat.le_trans hxy ((List.pairwise_cons.1 h).1 z hz)
  | case3 y ys hxy ih =>
    rw [List.pairwise_cons] at h ⊢
    refine ⟨fun z hz => ?_, ih h.2⟩
    rcases List.mem_cons.1 ((insertBy_perm f x ys).mem_iff.1 hz) with rfl | hz'
    · exact Nat.le_of_not_le hxy
    · exact h.1 z hz'

theorem sortBy_sorted {α : Type} (f : α → Nat) (l : List α) : (sortBy f l).Pairwise (fun a b => f a ≤ f b) := by
  induction l with
  | nil => simp [sortBy]
  | cons x xs ih => exact insertBy_sorted f x _ ih

theorem sortBy_dedupKeys {α : Type} [DecidableEq α] (f : α → Nat) (l : List α) :
    (sortBy f (dedupKeys l)).Nodup ∧ (sortBy f (dedupKeys l)).Pairwise (fun a b => f a ≤ f b) ∧
      ∀ k, k ∈ sortBy f (dedupKeys l) ↔ k ∈ l :=
  ⟨(sortBy_perm _ _).nodup_iff.2 (nodup_dedupKeys l), sortBy_sorted _ _,
    fun k => by rw [(sortBy_perm _ _).mem_iff, mem_dedupKeys]⟩

theorem mem_productSpec {α β : Type} (keys : List α) (vals : List β) (z : List (α × β)) :
    z ∈ productSpec keys vals ↔ z.map (·.1) = keys ∧ ∀ p ∈ z, p.2 ∈ vals := by
  induction keys generalizing z with
  | nil => cases z <;> simp [productSpec]
  | cons k ks ih =>
    simp only [productSpec, List.mem_flatMap, List.mem_map, ih, List.map_eq_cons_iff]
    constructor
    · rintro ⟨v, hv, z', ⟨h1, h2⟩, rfl⟩
      exact ⟨⟨_, _, rfl, rfl, h1⟩, List.forall_mem_cons.2 ⟨hv, h2⟩⟩
    · rintro ⟨⟨⟨a, b⟩, z', rfl, rfl, h1⟩, h2⟩
      rw [List.forall_mem_cons] at h2
      exact ⟨b, h2.1, z', ⟨h1, h2.2⟩, rfl⟩

theorem mem_combos {α : Type} (n : Nat) (L z : List α) : z ∈ combos n L ↔ z.Sublist L ∧ z.length = n := by
  fun_induction combos n L generalizing z with
  | case1 L => cases z <;> simp
  | case2 n => cases z <;> simp
  | case3 n x xs ih1 ih2 =>
    simp only [List.mem_append, List.mem_map, ih1, ih2, List.sublist_cons_iff]
    constructor
    · rintro (⟨z', ⟨hs, rfl⟩, rfl⟩ | ⟨hs, hl⟩)
      · exact ⟨.inr ⟨_, rfl, hs⟩, rfl⟩
      · exact ⟨.inl hs, hl⟩
    · rintro ⟨hs | ⟨r, rfl, hs⟩, hl⟩
      · exact .inr ⟨hs, hl⟩
      · exact .inl ⟨r, ⟨hs, by simpa using hl⟩, rfl⟩

theorem nodup_combos {α : Type} (n : Nat) (L : List α) (hL : L.Nodup) : (combos n L).Nodup := by
  fun_induction combos n L with
  | case1 L => simp
  | case2 n => simp
  | case3 n x xs ih1 ih2 =>
    rw [List.nodup_cons] at hL
    rw [List.nodup_append]
    refine ⟨(ih1 hL.2).map _ fun _ _ h e => h (List.cons.inj e).2, ih2 hL.2, ?_⟩
    rintro _ ha b hb rfl
    obtain ⟨a', _, rfl⟩ := List.mem_map.mp ha
    exact hL.1 (((mem_combos (n+1) xs _).mp hb).1.subset (by simp))

theorem pairs_cons {α β : Type} (k : α) (ks : List α) (vals : List β) :
    pairs (k :: ks) vals = vals.map (fun v => (k, v)) ++ pairs ks vals :=
  List.flatMap_cons

theorem mem_pairs {α β : Type} (keys : List α) (vals : List β) (p : α × β) :
    p ∈ pairs keys vals ↔ p.1 ∈ keys ∧ p.2 ∈ vals := by
  obtain ⟨a, b⟩ := p
  simp [pairs]

theorem nodup_pairs {α β : Type} (keys : List α) (vals : List β) (hk : keys.Nodup) (hv : vals.Nodup) :
    (pairs keys vals).Nodup := by
  refine List.pairwise_flatMap.2 ⟨fun k _ => hv.map _ fun _ _ h e => h (Prod.mk.inj e).2, hk.imp fun h x hx y hy e => ?_⟩
  obtain ⟨_, _, rfl⟩ := List.mem_map.1 hx
  obtain ⟨_, _, rfl⟩ := List.mem_map.1 hy
  exact h (Prod.mk.inj e).1

theorem map_fst_pairs {α β : Type} (keys : List α) (vals : List β) :
    (pairs keys vals).map (·.1) = keys.flatMap fun k => List.replicate vals.length k := by
  simp only [pairs, List.map_flatMap, List.map_map, Function.comp_def, List.map_const']

theorem sublist_pairs_of_spec {α β : Type} (vals : List β) (z : List (α × β)) (h : ∀ p ∈ z, p.2 ∈ vals) :
    z.Sublist (pairs (z.map (·.1)) vals) := by
  induction z with
  | nil => exact List.nil_sublist _
  | cons p z' ih =>
    rw [List.map_cons, pairs_cons]
    rw [List.forall_mem_cons] at h
    have hp : p ∈ vals.map fun v => (p.1, v) := List.mem_map.2 ⟨p.2, h.1, rfl⟩
    exact (List.singleton_sublist.2 hp).append (ih h.2)

/-- a duplicate-free sublist of constant blocks takes at most one element per block -/
theorem sublist_of_nodup_flatMap_replicate {α : Type} (m : Nat) (keys l : List α) (hl : l.Nodup)
    (hs : l.Sublist (keys.flatMap fun k => List.replicate m k)) : l.Sublist keys := by
  induction keys generalizing l with
  | nil => simpa using hs
  | cons k ks ih =>
    rw [List.flatMap_cons, List.sublist_append_iff] at hs
    obtain ⟨l1, l2, rfl, hs1, hs2⟩ := hs
    obtain ⟨j, _, rfl⟩ := List.sublist_replicate_iff.mp hs1
    obtain ⟨hj, hl2, _⟩ := List.nodup_append.mp hl
    exact ((List.replicate_sublist_replicate k).2 (List.nodup_replicate.1 hj)).append (ih l2 hl2 hs2)

theorem mem_assignments {α β : Type} [DecidableEq α] (keys : List α) (vals : List β) (hk : keys.Nodup) (z : List (α × β)) :
    z ∈ assignments keys vals ↔ z ∈ productSpec keys vals := by
  rw [mem_productSpec]
  simp only [assignments, List.mem_filter, mem_combos, beq_iff_eq]
  constructor
  · rintro ⟨⟨hs, hl⟩, hd⟩
    have hlen : (z.map (·.1)).length = keys.length := by simpa using hl
    have hsub : (z.map (·.1)).Sublist (keys.flatMap fun k => List.replicate vals.length k) :=
      map_fst_pairs keys vals ▸ hs.map _
    exact ⟨(sublist_of_nodup_flatMap_replicate _ _ _ (nodup_of_dedupKeys_length _ (hd.trans hlen.symm)) hsub).eq_of_length hlen,
      fun p hp => ((mem_pairs keys vals p).mp (hs.subset hp)).2⟩
  · rintro ⟨rfl, h2⟩
    exact ⟨⟨sublist_pairs_of_spec vals z h2, (z.length_map _).symm⟩, by rw [dedupKeys_of_nodup _ hk]⟩

/-- the code's `[[]]` for an empty key list is what `assignments` yields anyway -/
theorem ite_isEmpty_assignments {α β : Type} [DecidableEq α] (keys : List α) (vals : List β) :
    (if keys.isEmpty then [[]] else assignments keys vals) = assignments keys vals := by
  cases keys <;> rfl

end Ahbicht
