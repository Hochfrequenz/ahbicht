import Ahbicht.Lemmas.Rc
import Ahbicht.Lemmas.CFV
/-!
# One-hole contexts and the facts about a sub-expression its surroundings can observe
-/
namespace Ahbicht

inductive Ctx
  | hole
  | binL (o : Op) (c : Ctx) (r : Expr)
  | binR (o : Op) (l : Expr) (c : Ctx)
  deriving Repr

def Ctx.fill : Ctx → Expr → Expr
  | .hole, e => e
  | .binL o c r, e => .bin o (c.fill e) r
  | .binR o l c, e => .bin o l (c.fill e)

/-- everything the surroundings of a sub-expression can observe of it (validity: one direction) -/
structure Rel (s s' : Expr) : Prop where
  den : ∀ env, denote env s' = denote env s
  neu : neutralOnly s' = neutralOnly s
  fcl : s'.isFcLeaf = s.isFcLeaf
  hl : s'.isHintLeaf = s.isHintLeaf
  wf : WF s' = WF s
  inv : invalidAt s' = true → invalidAt s = true

theorem Rel.refl (s : Expr) : Rel s s := ⟨fun _ => rfl, rfl, rfl, rfl, rfl, id⟩

theorem Rel.trans {a b c : Expr} (h : Rel a b) (h' : Rel b c) : Rel a c :=
  ⟨fun env => (h'.den env).trans (h.den env), h'.neu.trans h.neu, h'.fcl.trans h.fcl, h'.hl.trans h.hl, h'.wf.trans h.wf,
    fun hi => h.inv (h'.inv hi)⟩

theorem Rel.bin {l l' r r' : Expr} (hl : Rel l l') (hr : Rel r r') (o : Op) : Rel (.bin o l r) (.bin o l' r') := by
  constructor
  · intro env; cases o <;> simp [denote, hl.den, hr.den, hl.fcl]
  · simp [neutralOnly, hl.neu, hr.neu]
  · rfl
  · rfl
  · cases o <;> simp [WF, hl.wf, hr.wf, hl.fcl, hr.fcl, hl.hl, hr.hl, hl.neu, hr.neu]
  · intro hi
    simp only [invalidAt, Bool.or_eq_true] at hi ⊢
    rw [hl.neu, hl.fcl, hl.hl, hr.neu, hr.fcl, hr.hl] at hi
    exact hi.imp_left (.imp hl.inv hr.inv)

theorem Rel.fill {s s' : Expr} (h : Rel s s') : ∀ c : Ctx, Rel (c.fill s) (c.fill s')
  | .hole => h
  | .binL o c r => (h.fill c).bin (.refl r) o
  | .binR o l c => (Rel.refl l).bin (h.fill c) o

theorem swap_rel {o : Op} (ho : o ≠ .then_) (l r : Expr) : Rel (.bin o l r) (.bin o r l) := by
  constructor
  · intro env
    cases o with
    | or_ => exact CFV.or_comm _ _
    | xor_ => exact CFV.xor_comm _ _
    | and_ => exact CFV.and_comm _ _
    | then_ => exact absurd rfl ho
  · simp [neutralOnly, Bool.and_comm]
  · rfl
  · rfl
  · cases o <;> simp [WF, Bool.and_comm] at ho ⊢
  · intro hi
    rw [invalidAt, Bool.or_comm (invalidAt r), bne_comm, Bool.and_comm r.isHintLeaf, Bool.and_comm r.isFcLeaf,
      Bool.or_right_comm (neutralOnly l != neutralOnly r)] at hi
    exact hi

/-- a replacement that is never a single key, seen from a U/O/X frame directly around it -/
structure Weak (s s' : Expr) : Prop where
  den : ∀ env, denote env s' = denote env s
  neu : neutralOnly s' = neutralOnly s
  fcl : s'.isFcLeaf = false
  hl : s'.isHintLeaf = false
  wf : WF s' = WF s
  inv : invalidAt s' = true → invalidAt s = true

theorem Weak.frameL {s s' : Expr} (h : Weak s s') {o : Op} (ho : o ≠ .then_) (r : Expr) :
    Rel (.bin o s r) (.bin o s' r) := by
  constructor
  · intro env; cases o <;> simp [denote, h.den] at ho ⊢
  · simp [neutralOnly, h.neu]
  · rfl
  · rfl
  · cases o <;> simp [WF, h.wf] at ho ⊢
  · intro hi
    simp only [invalidAt, Bool.or_eq_true] at hi ⊢
    rw [h.neu, h.fcl, h.hl] at hi
    refine hi.imp (.imp_left h.inv) fun hi => ?_
    simp only [Bool.false_and, Bool.or_false, Bool.and_eq_true] at hi ⊢
    exact ⟨hi.1, by simp [hi.2]⟩

theorem Weak.frameR {s s' : Expr} (h : Weak s s') {o : Op} (ho : o ≠ .then_) (l : Expr) :
    Rel (.bin o l s) (.bin o l s') :=
  ((swap_rel ho l s).trans (h.frameL ho l)).trans (swap_rel ho s' l)

theorem Weak.trans_rel {a b c : Expr} (h : Weak a b) (h' : Rel b c) : Weak a c :=
  ⟨fun env => (h'.den env).trans (h.den env), h'.neu.trans h.neu, h'.fcl.trans h.fcl, h'.hl.trans h.hl, h'.wf.trans h.wf,
    fun hi => h.inv (h'.inv hi)⟩

end Ahbicht
