import Ahbicht.Model.Lex
import Ahbicht.Lemmas.Chars
/-!
# The scanner on appended input and on runs of one character class; what it needs of the extracted classes
-/
namespace Ahbicht
open Generated

theorem lexFrom_cons_some {s : LState} {c : Char} {cs : List Char} {r : LState × List Tok}
    (h : lexFrom s (c :: cs) = some r) :
    ∃ s' t ts, lexStep s c = some (s', t) ∧ lexFrom s' cs = some (r.1, ts) ∧ r.2 = t.toList ++ ts := by
  simp only [lexFrom] at h
  cases hstep : lexStep s c with
  | none => simp [hstep] at h
  | some p =>
    cases hrec : lexFrom p.1 cs with
    | none => simp [hstep, hrec] at h
    | some q =>
      simp only [hstep, hrec, Option.some.injEq] at h
      subst h
      exact ⟨p.1, p.2, q.2, rfl, hrec, by cases p.2 <;> rfl⟩

theorem lex_eq_some {cs : List Char} {ts : List Tok} : lex cs = some ts ↔ lexFrom .out cs = some (.out, ts) := by
  unfold lex
  split <;> simp_all

def AllWs (w : List Char) : Prop := ∀ c ∈ w, isWs c = true

theorem allWs_nil : AllWs [] := fun _ h => nomatch h

theorem all_append {p : Char → Bool} {a b : List Char} (ha : ∀ d ∈ a, p d = true) (hb : ∀ d ∈ b, p d = true) :
    ∀ d ∈ a ++ b, p d = true :=
  List.forall_mem_append.2 ⟨ha, hb⟩

theorem all_one {p : Char → Bool} {c : Char} (hc : p c = true) : ∀ d ∈ [c], p d = true :=
  List.forall_mem_singleton.2 hc

theorem lexFrom_seq {s s1 s2 : LState} {a b : List Char} {t1 t2 : List Tok}
    (h1 : lexFrom s a = some (s1, t1)) (h2 : lexFrom s1 b = some (s2, t2)) :
    lexFrom s (a ++ b) = some (s2, t1 ++ t2) := by
  induction a generalizing s t1 with
  | nil => cases h1; exact h2
  | cons c cs ih =>
    obtain ⟨s', t, ts, hstep, hrec, rfl⟩ := lexFrom_cons_some h1
    simp only [List.cons_append, lexFrom, hstep, ih hrec]
    cases t <;> rfl

/-- states `s acc` that collect the characters of class `K` swallow any run of them -/
theorem lexFrom_loop {s : List Char → LState} {K : Char → Bool}
    (hs : ∀ acc c, K c = true → lexStep (s acc) c = some (s (c :: acc), none)) {ds : List Char}
    (h : ∀ c ∈ ds, K c = true) (acc : List Char) : lexFrom (s acc) ds = some (s (ds.reverse ++ acc), []) := by
  induction ds generalizing acc with
  | nil => rfl
  | cons c cs ih =>
    obtain ⟨hc, hcs⟩ := List.forall_mem_cons.1 h
    simp [lexFrom, hs acc c hc, ih hcs]

theorem lexFrom_ws {s : LState} (hs : ∀ c, isWs c = true → lexStep s c = some (s, none)) {w : List Char}
    (hw : AllWs w) : lexFrom s w = some (s, []) :=
  lexFrom_loop (s := fun _ => s) (fun _ => hs) hw []

theorem ws_out : ∀ c, isWs c = true → lexStep .out c = some (.out, none) := by
  intro c h; simp [lexStep, h]
theorem ws_open : ∀ c, isWs c = true → lexStep .open_ c = some (.open_, none) := by
  intro c h; simp [lexStep, h]
theorem ws_afterPkg (k) : ∀ c, isWs c = true → lexStep (.afterPkg k) c = some (.afterPkg k, none) := by
  intro c h; simp [lexStep, h]
theorem ws_close (a) : ∀ c, isWs c = true → lexStep (.close a) c = some (.close a, none) := by
  intro c h; simp [lexStep, h]

/-- a character of one class is in none of the classes `lexStep` tests before it -/
structure ClassFacts : Prop where
  ws : ∀ {c}, isWs c = true → isIntDigit c = false ∧ isUniDigit c = false ∧ c ≠ 'P'
  int_ws : ∀ {c}, isIntDigit c = true → isWs c = false
  uni_ws : ∀ {c}, isUniDigit c = true → isWs c = false
  rsqb : ∀ {c}, isRsqb c = true → isWs c = false ∧ isIntDigit c = false ∧ isUniDigit c = false ∧ c ≠ 'P'
  lsqb : ∀ {c}, isLsqb c = true → isWs c = false
  lpar : ∀ {c}, isLpar c = true → isWs c = false ∧ isLsqb c = false
  rpar : ∀ {c}, isRpar c = true → isWs c = false ∧ isLsqb c = false ∧ isLpar c = false
  or_ : ∀ {c}, isOpOr c = true → isWs c = false ∧ isLsqb c = false ∧ isLpar c = false ∧ isRpar c = false
  xor_ : ∀ {c}, isOpXor c = true →
    isWs c = false ∧ isLsqb c = false ∧ isLpar c = false ∧ isRpar c = false ∧ isOpOr c = false
  and_ : ∀ {c}, isOpAnd c = true →
    isWs c = false ∧ isLsqb c = false ∧ isLpar c = false ∧ isRpar c = false ∧ isOpOr c = false ∧ isOpXor c = false
  p_not : isIntDigit 'P' = false
  u_not : isIntDigit 'U' = false ∧ isWs 'U' = false
  dot_not : isUniDigit '.' = false

/-- disjoint range tables; what concerns a single character by evaluation -/
theorem classFacts : ClassFacts := by
  constructor
  all_goals first
    | (intro c h; and_intros <;> first | exact disj_sound (by decide +kernel) h | (rintro rfl; revert h; decide))
    | decide

end Ahbicht
