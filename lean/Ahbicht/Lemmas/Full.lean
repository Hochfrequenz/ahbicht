import Ahbicht.Model.Full
import Ahbicht.Lemmas.Val
/-!
# The end-to-end walk is the table walk on the evaluated tree

…where the evaluator succeeds on ALL expression texts of the tree, also those the walk never evaluates (`validateGroupsT_agree`).
-/
namespace Ahbicht

abbrev EvT := List Char → Option String → NodeRes

def DataElementT.eval (f : EvT) : DataElementT → DataElement
  | .free d e i v => .free d (f e i) i v
  | .pool d es i => .pool d (es.map fun e => ⟨e.1, e.2.1, f e.2.2 i⟩) i

def SegmentT.eval (f : EvT) (s : SegmentT) : Segment := ⟨s.disc, f s.expr none, s.des.map (DataElementT.eval f)⟩

mutual
def GroupT.eval (f : EvT) : GroupT → Group
  | .mk d e gs ss => .mk d (f e none) (GroupsT.eval f gs) (ss.map (SegmentT.eval f))
def GroupsT.eval (f : EvT) : GroupsT → Groups
  | .nil => .nil
  | .cons g gs => .cons (GroupT.eval f g) (GroupsT.eval f gs)
end

def okEv (f : EvT) : Ev := fun t i => .ok (f t i)

def DataElementT.texts : DataElementT → List (List Char)
  | .free _ e _ _ => [e]
  | .pool _ es _ => es.map (·.2.2)

def SegmentT.texts (s : SegmentT) : List (List Char) := s.expr :: s.des.flatMap DataElementT.texts

mutual
def GroupT.texts : GroupT → List (List Char)
  | .mk _ e gs ss => e :: (GroupsT.texts gs ++ ss.flatMap SegmentT.texts)
def GroupsT.texts : GroupsT → List (List Char)
  | .nil => []
  | .cons g gs => GroupT.texts g ++ GroupsT.texts gs
end

/-- the entries may differ (`.invalid ""` where nothing is evaluated); what they offer does not -/
theorem poolEntriesT_offered (ev : Ev) (f : EvT) (entries : List (String × String × List Char)) (st : RVV) (i : Option String)
    (H : ∀ e ∈ entries, ev e.2.2 i = .ok (f e.2.2 i)) :
    ∃ es, poolEntriesT ev entries st i = .ok es ∧
      offered es st = offered (entries.map fun e => ⟨e.1, e.2.1, f e.2.2 i⟩) st := by
  unfold poolEntriesT
  split
  · next hst => subst hst; exact ⟨_, rfl, rfl⟩
  · next hst =>
    split
    -- one entry: offered whatever its expression says
    · exact ⟨_, rfl, by unfold offered; rw [if_neg hst, if_neg hst]; rfl⟩
    · exact ⟨_, (mapM_congr_mem fun e he => by rw [H e he]; rfl).trans (List.mapM_pure (f := fun e => ⟨e.1, e.2.1, f e.2.2 i⟩)), rfl⟩

theorem validateDataElementT_agree (ev : Ev) (f : EvT) (de : DataElementT) (st : RVV) (soll : Bool)
    (H : ∀ t ∈ de.texts, ∀ i, ev t i = .ok (f t i)) :
    validateDataElementT ev de st soll = validateDataElement (de.eval f) st soll := by
  cases de with
  | free d e i v => rw [validateDataElementT, H e List.mem_cons_self i]; rfl
  | pool d es i =>
    obtain ⟨es', h1, h2⟩ := poolEntriesT_offered ev f es st i fun e he => H e.2.2 (List.mem_map.2 ⟨e, he, rfl⟩) i
    rw [validateDataElementT, h1]
    show validateDataElement (.pool d es' i) st soll = _
    simp only [validateDataElement, DataElementT.eval, h2]

theorem segLevelT_agree (ev : Ev) (f : EvT) (e : List Char) (parent : Option RVV) (soll : Bool)
    (H : ev e none = .ok (f e none)) :
    segLevelT ev e parent soll = segLevel (f e none) parent soll := by
  unfold segLevelT
  split
  · next hp => rw [hp, segLevel_forbidden]
  · rw [H]; rfl

theorem validateSegmentT_agree (ev : Ev) (f : EvT) (s : SegmentT) (parent : Option RVV) (soll : Bool)
    (H : ∀ t ∈ s.texts, ∀ i, ev t i = .ok (f t i)) :
    validateSegmentT ev s parent soll = validateSegment (s.eval f) parent soll := by
  obtain ⟨he, hdes⟩ := List.forall_mem_cons.1 H
  have h2 (st) := mapM_congr_mem fun de hde => validateDataElementT_agree ev f de st soll (List.forall_mem_flatMap.1 hdes de hde)
  simp only [validateSegmentT, validateSegment, SegmentT.eval, List.mapM_map, segLevelT_agree ev f s.expr parent soll (he none), h2]
  rfl

mutual
theorem validateGroupT_agree (ev : Ev) (f : EvT) : ∀ (g : GroupT) (parent : Option RVV) (soll : Bool),
    (∀ t ∈ g.texts, ∀ i, ev t i = .ok (f t i)) →
    validateGroupT ev g parent soll = validateGroup (g.eval f) parent soll
  | .mk d e gs ss, parent, soll, H => by
    obtain ⟨he, H⟩ := List.forall_mem_cons.1 H
    obtain ⟨hgs, hss⟩ := List.forall_mem_append.1 H
    have h2 (p) := validateGroupsT_agree ev f gs p soll hgs
    have h3 (p) := mapM_congr_mem fun s hs => validateSegmentT_agree ev f s p soll (List.forall_mem_flatMap.1 hss s hs)
    simp only [validateGroupT, validateGroup, GroupT.eval, List.mapM_map, segLevelT_agree ev f e parent soll (he none), h2, h3]
    rfl
theorem validateGroupsT_agree (ev : Ev) (f : EvT) : ∀ (gs : GroupsT) (parent : Option RVV) (soll : Bool),
    (∀ t ∈ gs.texts, ∀ i, ev t i = .ok (f t i)) →
    validateGroupsT ev gs parent soll = validateGroups (gs.eval f) parent soll
  | .nil, _, _, _ => rfl
  | .cons g rest, parent, soll, H => by
    obtain ⟨hg, hrest⟩ := List.forall_mem_append.1 H
    simp only [validateGroupsT, validateGroups, GroupsT.eval, validateGroupT_agree ev f g parent soll hg,
      validateGroupsT_agree ev f rest parent soll hrest]
end

/-- the bridge for a whole AHB and the evaluator `nodeRes` built from the models of C02–C10 -/
theorem validateAhbFull_eq (cer : Cer) (lines : GroupsT) (soll : Bool) (f : EvT)
    (h : ∀ t ∈ lines.texts, ∀ i, nodeRes cer t = .ok (f t i)) :
    validateAhbFull cer lines soll = validateAhb (lines.eval f) soll :=
  validateGroupsT_agree (fun text _ => nodeRes cer text) f lines none soll h

/-- this and the next two: `…_agree` at the always-succeeding evaluator `okEv f` -/
theorem validateDataElementT_total (f : EvT) (de : DataElementT) (st : RVV) (soll : Bool) :
    validateDataElementT (okEv f) de st soll = validateDataElement (de.eval f) st soll :=
  validateDataElementT_agree (okEv f) f de st soll (fun _ _ _ => rfl)

theorem validateGroupT_total (f : EvT) : ∀ (g : GroupT) (parent : Option RVV) (soll : Bool),
    validateGroupT (okEv f) g parent soll = validateGroup (g.eval f) parent soll :=
  fun g parent soll => validateGroupT_agree (okEv f) f g parent soll fun _ _ _ => rfl

theorem validateGroupsT_total (f : EvT) : ∀ (gs : GroupsT) (parent : Option RVV) (soll : Bool),
    validateGroupsT (okEv f) gs parent soll = validateGroups (gs.eval f) parent soll :=
  fun gs parent soll => validateGroupsT_agree (okEv f) f gs parent soll fun _ _ _ => rfl

theorem pool_single_not_evaluated (ev : Ev) (disc q m : String) (expr : List Char) (input : Option String) (st : RVV) (soll : Bool) :
    validateDataElementT ev (.pool disc [(q, m, expr)] input) st soll =
      validateDataElement (.pool disc [⟨q, m, .invalid ""⟩] input) st soll := by
  by_cases hst : st = .IS_FORBIDDEN <;> simp [validateDataElementT, poolEntriesT, hst, bind, Except.bind]

end Ahbicht
