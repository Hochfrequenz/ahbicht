import Ahbicht.Model.Heap
/-!
# Lemmas about M-HEAP (for C11)

Region tags turn "the cache is never written" into per-cell facts: references never cross regions (`Homog`), an edit starts at a `user`
root and so writes `user` cells only, every operation moves the heap along `Le`, and `Repr .cache` is stable along `Le`.
-/
namespace Ahbicht

theorem lt_of_get {α} {l : List α} {x : α} {i : Nat} (h : l[i]? = some x) : i < l.length :=
  (List.getElem?_eq_some_iff.1 h).1

theorem mem_or_eq_of_mem_concat {α} {l : List α} {a x : α} (h : x ∈ l ++ [a]) : x ∈ l ∨ x = a := by simpa using h

mutual
/-- the cells below `r` spell the value, all in region `reg`; a child reference is smaller than its parent's (this bounds the fuel) -/
def Repr (reg : Region) (h : Heap) : Nat → LTree → Prop
  | r, .node d cs => ∃ l items, h.trees[r]? = some ⟨reg, d, l⟩ ∧ h.lists[l]? = some ⟨reg, items⟩ ∧ ReprItems reg h r items cs
def ReprItems (reg : Region) (h : Heap) : Nat → List Child → LForest → Prop
  | _, items, .nil => items = []
  | b, items, .consTok ty v rest => ∃ tl, items = .tok ty v :: tl ∧ ReprItems reg h b tl rest
  | b, items, .consTree t rest => ∃ r tl, items = .tree r :: tl ∧ r < b ∧ Repr reg h r t ∧ ReprItems reg h b tl rest
end

def RTree (reg : Region) (h : Heap) (r : Nat) : Prop := ∃ c, h.trees[r]? = some c ∧ c.region = reg
def RList (reg : Region) (h : Heap) (l : Nat) : Prop := ∃ c, h.lists[l]? = some c ∧ c.region = reg

structure Homog (h : Heap) : Prop where
  trees : ∀ (r : Nat) (c : TreeCell), h.trees[r]? = some c → RList c.region h c.list
  lists : ∀ (l : Nat) (lc : ListCell), h.lists[l]? = some lc → ∀ r', Child.tree r' ∈ lc.items → RTree lc.region h r'

def CellsLe {α : Type} (reg : α → Region) (l l' : List α) : Prop :=
  ∀ (i : Nat) (c : α), l[i]? = some c → ∃ c', l'[i]? = some c' ∧ reg c' = reg c ∧ (reg c = .cache → c' = c)

structure Le (h h' : Heap) : Prop where
  trees : CellsLe TreeCell.region h.trees h'.trees
  lists : CellsLe ListCell.region h.lists h'.lists

structure Ext (h h' : Heap) : Prop where
  trees : ∀ (i : Nat) (c : TreeCell), h.trees[i]? = some c → h'.trees[i]? = some c
  lists : ∀ (i : Nat) (c : ListCell), h.lists[i]? = some c → h'.lists[i]? = some c

structure Pres (reg : Region) (h h' : Heap) : Prop where
  trees : ∀ (i : Nat) (c : TreeCell), h.trees[i]? = some c → c.region = reg → h'.trees[i]? = some c
  lists : ∀ (i : Nat) (c : ListCell), h.lists[i]? = some c → c.region = reg → h'.lists[i]? = some c

section
variable {α : Type} {reg : α → Region} {l l₁ l₂ l₃ : List α}

theorem CellsLe.refl : CellsLe reg l l := fun _ c hc => ⟨c, hc, rfl, fun _ => rfl⟩

theorem CellsLe.trans (a : CellsLe reg l₁ l₂) (b : CellsLe reg l₂ l₃) : CellsLe reg l₁ l₃ := by
  intro i c hc
  obtain ⟨c', hc', hr', he'⟩ := a i c hc
  obtain ⟨c'', hc'', hr'', he''⟩ := b i c' hc'
  exact ⟨c'', hc'', hr''.trans hr', fun hcache => by rw [he'' (hr'.trans hcache), he' hcache]⟩

theorem CellsLe.of_ext (a : ∀ (i : Nat) (c : α), l[i]? = some c → l₂[i]? = some c) : CellsLe reg l l₂ :=
  fun i c hc => ⟨c, a i c hc, rfl, fun _ => rfl⟩

theorem CellsLe.pres (a : CellsLe reg l l₂) {i : Nat} {c : α} (hc : l[i]? = some c) (hr : reg c = .cache) : l₂[i]? = some c := by
  obtain ⟨c', hc', _, he⟩ := a i c hc
  rw [← he hr]; exact hc'

theorem CellsLe.region (a : CellsLe reg l l₂) {i : Nat} {r : Region} :
    (∃ c, l[i]? = some c ∧ reg c = r) → ∃ c, l₂[i]? = some c ∧ reg c = r :=
  fun ⟨c, hc, hr⟩ => (a i c hc).imp fun _ h => ⟨h.1, h.2.1.trans hr⟩

theorem CellsLe.set {i : Nat} {c c' : α} (hc : l[i]? = some c) (hu : reg c = .user) (hu' : reg c' = .user) :
    CellsLe reg l (l.set i c') := by
  intro j x hx
  by_cases hji : j = i
  · subst hji
    rw [hc] at hx; cases hx
    exact ⟨c', List.getElem?_set_self (lt_of_get hc), hu'.trans hu.symm, fun hcache => by rw [hu] at hcache; cases hcache⟩
  · exact ⟨x, (List.getElem?_set_ne (Ne.symm hji)).trans hx, rfl, fun _ => rfl⟩
end

theorem Le.refl (h : Heap) : Le h h := ⟨.refl, .refl⟩
theorem Le.trans {h₁ h₂ h₃ : Heap} (a : Le h₁ h₂) (b : Le h₂ h₃) : Le h₁ h₃ := ⟨a.trees.trans b.trees, a.lists.trans b.lists⟩
theorem Le.pres {h h' : Heap} (a : Le h h') : Pres .cache h h' := ⟨fun _ _ => a.trees.pres, fun _ _ => a.lists.pres⟩

theorem Ext.refl (h : Heap) : Ext h h := ⟨fun _ _ hc => hc, fun _ _ hc => hc⟩
theorem Ext.trans {h₁ h₂ h₃ : Heap} (a : Ext h₁ h₂) (b : Ext h₂ h₃) : Ext h₁ h₃ :=
  ⟨fun i c hc => b.trees i c (a.trees i c hc), fun i c hc => b.lists i c (a.lists i c hc)⟩
theorem Ext.le {h h' : Heap} (a : Ext h h') : Le h h' := ⟨.of_ext a.trees, .of_ext a.lists⟩
theorem Ext.pres {h h' : Heap} (a : Ext h h') (reg : Region) : Pres reg h h' :=
  ⟨fun i c hc _ => a.trees i c hc, fun i c hc _ => a.lists i c hc⟩

theorem RTree.mono {reg : Region} {h h' : Heap} {r : Nat} (a : Le h h') : RTree reg h r → RTree reg h' r := a.trees.region
theorem RList.mono {reg : Region} {h h' : Heap} {l : Nat} (a : Le h h') : RList reg h l → RList reg h' l := a.lists.region

mutual
theorem Repr.mono {reg : Region} {h h' : Heap} (a : Pres reg h h') : ∀ (v : LTree) (r : Nat), Repr reg h r v → Repr reg h' r v
  | .node _ cs, r => by
    rintro ⟨l, items, ht, hl, hi⟩
    exact ⟨l, items, a.trees _ _ ht rfl, a.lists _ _ hl rfl, ReprItems.mono a cs r r items (Nat.le_refl _) hi⟩
theorem ReprItems.mono {reg : Region} {h h' : Heap} (a : Pres reg h h') :
    ∀ (f : LForest) (b b' : Nat) (items : List Child), b ≤ b' → ReprItems reg h b items f → ReprItems reg h' b' items f
  | .nil, _, _, _, _ => id
  | .consTok _ _ rest, b, b', _, hb => by
    rintro ⟨tl, he, hi⟩
    exact ⟨tl, he, ReprItems.mono a rest b b' tl hb hi⟩
  | .consTree t rest, b, b', _, hb => by
    rintro ⟨r, tl, he, hlt, hr, hi⟩
    exact ⟨r, tl, he, Nat.lt_of_lt_of_le hlt hb, Repr.mono a t r hr, ReprItems.mono a rest b b' tl hb hi⟩
end

theorem Repr.rtree {reg : Region} {h : Heap} {r : Nat} : ∀ {v : LTree}, Repr reg h r v → RTree reg h r
  | .node _ _ => by
    rintro ⟨_, _, ht, _, _⟩
    exact ⟨_, ht, rfl⟩

/-! `readTree (fuel+1)` calls `readItems fuel`, which calls `readTree (fuel-1)` for a tree child: two units of fuel per nesting level,
whence `2 * r + 1` and `2 * b`. -/

mutual
theorem Repr.read {reg : Region} {h : Heap} : ∀ (v : LTree) (r n : Nat), Repr reg h r v → 2 * r + 1 ≤ n → readTree h n r = some v
  | _, _, 0 => fun _ hn => absurd hn (Nat.not_succ_le_zero _)
  | .node d cs, r, m + 1 => by
    rintro ⟨l, items, ht, hl, hi⟩ hn
    simp only [readTree, ht, hl]
    rw [ReprItems.read cs r m items hi (Nat.le_of_succ_le_succ hn)]
    rfl
theorem ReprItems.read {reg : Region} {h : Heap} :
    ∀ (f : LForest) (b n : Nat) (items : List Child), ReprItems reg h b items f → 2 * b ≤ n → readItems h n items = some f
  | .nil, _, _, _ => by
    rintro rfl _
    simp [readItems]
  | .consTok ty v rest, b, n, _ => by
    rintro ⟨tl, rfl, hi⟩ hn
    simp only [readItems]
    rw [ReprItems.read rest b n tl hi hn]
    rfl
  | .consTree t rest, b, n, _ => by
    rintro ⟨r, tl, rfl, hlt, hr, hi⟩ hn
    have h2 : 2 * r + 1 < n := Nat.le_trans (Nat.mul_le_mul_left 2 hlt) hn
    cases n with
    | zero => cases h2
    | succ m =>
      simp only [readItems]
      rw [Repr.read t r m hr (Nat.le_of_succ_le_succ h2), ReprItems.read rest b (m + 1) tl hi hn]
end

/-- the fuel of `handOut` and `runOps` suffices -/
theorem Repr.read_all {reg : Region} {h : Heap} {r : Nat} {v : LTree} (hR : Repr reg h r v) :
    readTree h (2 * h.trees.length + 1) r = some v := by
  obtain ⟨c, hc, _⟩ := hR.rtree
  exact Repr.read v r _ hR (Nat.succ_le_succ (Nat.mul_le_mul_left 2 (Nat.le_of_lt (lt_of_get hc))))

/-- `c` is the only new cell of `ts`: appended, or written over a `user` cell -/
theorem homog_writeTree {h : Heap} (hH : Homog h) {ts : List TreeCell} {c : TreeCell} (a : Le h { h with trees := ts })
    (hw : ∀ {x}, x ∈ ts → x ∈ h.trees ∨ x = c) (hl : RList c.region h c.list) : Homog { h with trees := ts } :=
  ⟨fun _ x hx => (hw (List.mem_of_getElem? hx)).elim
      (fun h0 => (List.getElem?_of_mem h0).elim fun i hi => (hH.trees i x hi).mono a) (fun e => by subst e; exact hl.mono a),
   fun l lc hlc r' hm => (hH.lists l lc hlc r' hm).mono a⟩

theorem homog_writeList {h : Heap} (hH : Homog h) {ls : List ListCell} {lc : ListCell} (a : Le h { h with lists := ls })
    (hw : ∀ {x}, x ∈ ls → x ∈ h.lists ∨ x = lc) (hch : ∀ r', Child.tree r' ∈ lc.items → RTree lc.region h r') :
    Homog { h with lists := ls } :=
  ⟨fun r c hc => (hH.trees r c hc).mono a,
   fun _ x hx r' hm => (hw (List.mem_of_getElem? hx)).elim
      (fun h0 => (List.getElem?_of_mem h0).elim fun i hi => (hH.lists i x hi r' hm).mono a)
      (fun e => by subst e; exact (hch r' hm).mono a)⟩

theorem ext_appendList (h : Heap) (lc : ListCell) : Ext h { h with lists := h.lists ++ [lc] } :=
  ⟨fun _ _ hc => hc, fun _ _ hc => (List.getElem?_append_left (lt_of_get hc)).trans hc⟩

theorem ext_appendTree (h : Heap) (c : TreeCell) : Ext h { h with trees := h.trees ++ [c] } :=
  ⟨fun _ _ hc => (List.getElem?_append_left (lt_of_get hc)).trans hc, fun _ _ hc => hc⟩

theorem le_setTree {h : Heap} {r : Nat} {c c' : TreeCell} (hc : h.trees[r]? = some c) (hu : c.region = .user)
    (hu' : c'.region = .user) : Le h { h with trees := h.trees.set r c' } := ⟨.set hc hu hu', .refl⟩

theorem setList_eq {h : Heap} {l : Nat} {lc : ListCell} (hc : h.lists[l]? = some lc) (items : List Child) :
    setList h l items = { h with lists := h.lists.set l ⟨lc.region, items⟩ } := by
  simp [setList, hc]

mutual
theorem allocTree_spec (reg : Region) : ∀ (v : LTree) (h : Heap), Homog h →
    Homog (allocTree reg v h).1 ∧ Ext h (allocTree reg v h).1 ∧ Repr reg (allocTree reg v h).1 (allocTree reg v h).2 v
  | .node d cs, h, hH => by
    obtain ⟨hH₁, hE₁, hR₁, hC₁⟩ := allocForest_spec reg cs h _ _ rfl hH
    simp only [allocTree]
    generalize allocForest reg cs h = p at hH₁ hE₁ hR₁ hC₁ ⊢
    have hE₂ := ext_appendList p.1 ⟨reg, p.2⟩
    have hH₂ := homog_writeList hH₁ hE₂.le mem_or_eq_of_mem_concat hC₁
    have hE₃ := ext_appendTree { p.1 with lists := p.1.lists ++ [⟨reg, p.2⟩] } ⟨reg, d, p.1.lists.length⟩
    exact ⟨homog_writeTree hH₂ hE₃.le mem_or_eq_of_mem_concat ⟨_, List.getElem?_concat_length, rfl⟩,
      hE₁.trans (hE₂.trans hE₃), _, _, List.getElem?_concat_length, List.getElem?_concat_length,
      ReprItems.mono ((hE₂.trans hE₃).pres reg) cs _ _ _ (Nat.le_refl _) hR₁⟩
theorem allocForest_spec (reg : Region) : ∀ (f : LForest) (h h' : Heap) (items : List Child), allocForest reg f h = (h', items) →
    Homog h → Homog h' ∧ Ext h h' ∧ ReprItems reg h' h'.trees.length items f ∧ (∀ r', Child.tree r' ∈ items → RTree reg h' r')
  | .nil, h, h', items, he, hH => by
    obtain ⟨rfl, rfl⟩ := Prod.mk.inj he
    exact ⟨hH, Ext.refl _, rfl, fun _ hmem => nomatch hmem⟩
  | .consTok ty v rest, h, h', items, he, hH => by
    simp only [allocForest] at he
    obtain ⟨rfl, rfl⟩ := Prod.mk.inj he
    obtain ⟨hH₁, hE₁, hR₁, hC₁⟩ := allocForest_spec reg rest h _ _ rfl hH
    exact ⟨hH₁, hE₁, ⟨_, rfl, hR₁⟩, fun r' hmem => hC₁ r' (by simpa using hmem)⟩
  | .consTree t rest, h, h', items, he, hH => by
    simp only [allocForest] at he
    obtain ⟨rfl, rfl⟩ := Prod.mk.inj he
    obtain ⟨hH₁, hE₁, hR₁⟩ := allocTree_spec reg t h hH
    obtain ⟨hH₂, hE₂, hR₂, hC₂⟩ := allocForest_spec reg rest _ _ _ rfl hH₁
    have hR₁' := Repr.mono (hE₂.pres reg) t _ hR₁
    have hrt := hR₁'.rtree
    refine ⟨hH₂, hE₁.trans hE₂, ⟨_, _, rfl, hrt.elim fun _ hc => lt_of_get hc.1, hR₁', hR₂⟩, fun r' hmem => ?_⟩
    rcases List.mem_cons.1 hmem with e | hmem
    · cases e; exact hrt
    · exact hC₂ r' hmem
end

theorem navigate_user {h : Heap} (hH : Homog h) : ∀ (path : List Nat) (r r' : Nat), RTree .user h r → navigate h r path = some r' →
    RTree .user h r'
  | [], r, r', hr, hn => by
    cases hn; exact hr
  | i :: rest, r, r', hr, hn => by
    obtain ⟨c, hc, hu⟩ := hr
    obtain ⟨lc, hlc, hlu⟩ := hH.trees r c hc
    simp only [navigate, hc, hlc] at hn
    split at hn
    · rename_i r'' hitem
      have := hH.lists _ lc hlc r'' (List.mem_of_getElem? hitem)
      rw [hlu, hu] at this
      exact navigate_user hH rest r'' r' this hn
    · cases hn

theorem resolveChild_spec {st : State} {h h' : Heap} {nc : NewChild} {ch : Child} (hH : Homog h)
    (hheld : ∀ r ∈ st.held, RTree .user h r) (he : resolveChild st h nc = some (h', ch)) :
    Homog h' ∧ Le h h' ∧ (∀ r', .tree r' = ch → RTree .user h' r') := by
  cases nc with
  | tok ty v =>
    obtain ⟨rfl, rfl⟩ := Prod.mk.inj (Option.some.inj he)
    exact ⟨hH, Le.refl _, fun r' hr' => by cases hr'⟩
  | fresh t =>
    obtain ⟨rfl, rfl⟩ := Prod.mk.inj (Option.some.inj he)
    obtain ⟨hH₁, hE₁, hR₁⟩ := allocTree_spec .user t h hH
    exact ⟨hH₁, hE₁.le, fun r' hr' => by cases hr'; exact hR₁.rtree⟩
  | existing root path =>
    simp only [resolveChild] at he
    split at he
    · cases he
    · rename_i r hroot
      obtain ⟨r'', hn, e⟩ := Option.map_eq_some_iff.1 he
      obtain ⟨rfl, rfl⟩ := Prod.mk.inj e
      exact ⟨hH, Le.refl _, fun r' hr' => by
        cases hr'; exact navigate_user hH path r r'' (hheld r (List.mem_of_getElem? hroot)) hn⟩

/-- the inline `step` of `editOp`'s `.rebind` branch, copied so that statements can mention it -/
def rebindStep (st : State) (acc : Option (Heap × List Child)) (nc : NewChild) : Option (Heap × List Child) :=
  match acc with
  | none => none
  | some (h, cs) => (resolveChild st h nc).map fun (h', ch) => (h', cs ++ [ch])

theorem rebind_fold (st : State) (ncs : List NewChild) {h : Heap} {cs : List Child} (hH : Homog h)
    (hheld : ∀ r ∈ st.held, RTree .user h r) (hcs : ∀ r', Child.tree r' ∈ cs → RTree .user h r') :
    ∀ h' cs', ncs.foldl (rebindStep st) (some (h, cs)) = some (h', cs') →
      Homog h' ∧ Le h h' ∧ (∀ r', Child.tree r' ∈ cs' → RTree .user h' r') := by
  refine List.foldlRecOn
    (motive := fun acc => ∀ h' cs', acc = some (h', cs') → Homog h' ∧ Le h h' ∧ ∀ r', Child.tree r' ∈ cs' → RTree .user h' r')
    ncs _ (fun h' cs' he => ?_) fun acc ih nc _ h' cs' he => ?_
  · cases he
    exact ⟨hH, Le.refl _, hcs⟩
  · obtain _ | ⟨h₁, cs₁⟩ := acc
    · cases he
    obtain ⟨⟨h₂, ch⟩, hr, e⟩ := Option.map_eq_some_iff.1 he
    cases e
    obtain ⟨hH₁, hL₁, hcs₁⟩ := ih h₁ cs₁ rfl
    obtain ⟨hH₂, hL₂, hch⟩ := resolveChild_spec hH₁ (fun r hr => (hheld r hr).mono hL₁) hr
    exact ⟨hH₂, hL₁.trans hL₂, fun r' hm => (mem_or_eq_of_mem_concat hm).elim (fun hm => (hcs₁ r' hm).mono hL₂) (hch r')⟩

/-- `h'`: the heap may have grown meanwhile; a new reference was there before or points to a `user` cell (the caller may alias) -/
theorem setList_spec {h h' : Heap} {l : Nat} {lc : ListCell} (hH : Homog h) (hH' : Homog h') (hL : Le h h')
    (hl : h.lists[l]? = some lc) (hu : lc.region = .user) (items : List Child)
    (hnew : ∀ r', Child.tree r' ∈ items → Child.tree r' ∈ lc.items ∨ RTree .user h' r') :
    Homog (setList h' l items) ∧ Le h (setList h' l items) := by
  obtain ⟨lc', hl', hu'⟩ := RList.mono hL ⟨lc, hl, hu⟩
  rw [setList_eq hl']
  have hle : Le h' { h' with lists := h'.lists.set l ⟨lc'.region, items⟩ } := ⟨.refl, .set hl' hu' hu'⟩
  refine ⟨homog_writeList hH' hle List.mem_or_eq_of_mem_set (fun r' hm => ?_), hL.trans hle⟩
  rw [hu']
  exact (hnew r' hm).elim (fun ho => (hu ▸ hH.lists l lc hl r' ho).mono hL) id

theorem editOp_spec (st : State) (root : Nat) (path : List Nat) (e : Edit) (hH : Homog st.heap)
    (hheld : ∀ r ∈ st.held, RTree .user st.heap r) :
    ∃ h', editOp st root path e = { st with heap := h' } ∧ Homog h' ∧ Le st.heap h' := by
  have noop : ∃ h', st = { st with heap := h' } ∧ Homog h' ∧ Le st.heap h' := ⟨st.heap, rfl, hH, Le.refl _⟩
  unfold editOp
  split
  · exact noop
  rename_i r0 hr0
  split
  · exact noop
  rename_i r hnav
  split
  · exact noop
  rename_i c hc
  split
  · exact noop
  rename_i l hl
  -- the node that is edited, its `Tree` cell and its list cell are `user` cells
  obtain ⟨_, hc', hcu⟩ := navigate_user hH path r0 r (hheld r0 (List.mem_of_getElem? hr0)) hnav
  rw [hc] at hc'; cases hc'
  obtain ⟨_, hl', hlu⟩ := hH.trees r c hc
  rw [hl] at hl'; cases hl'
  rw [hcu] at hlu
  -- one case per `Edit`, in the order of `editOp`
  split
  · rename_i d
    have hle := le_setTree (c' := { c with data := d }) hc hcu hcu
    exact ⟨_, rfl, homog_writeTree hH hle List.mem_or_eq_of_mem_set ⟨l, hl, hlu.trans hcu.symm⟩, hle⟩
  · exact ⟨_, rfl, setList_spec hH hH (Le.refl _) hl hlu _ fun r' hmem => .inl ((List.eraseIdx_sublist _ _).subset hmem)⟩
  · split
    · rename_i h' ch hres
      obtain ⟨hH', hL', hch⟩ := resolveChild_spec hH hheld hres
      split
      · exact ⟨_, rfl, setList_spec hH hH' hL' hl hlu _ fun r' hmem =>
          (List.mem_or_eq_of_mem_set hmem).imp_right (hch r')⟩
      · exact noop
    · exact noop
  · split
    · rename_i h' ch hres
      obtain ⟨hH', hL', hch⟩ := resolveChild_spec hH hheld hres
      exact ⟨_, rfl, setList_spec hH hH' hL' hl hlu _ fun r' hmem =>
        (mem_or_eq_of_mem_concat hmem).imp_right (hch r')⟩
    · exact noop
  · -- rebind: a new `user` list cell, then the `Tree` cell points to it
    rename_i ncs
    dsimp only
    split
    · exact noop
    · rename_i h' cs hfold
      obtain ⟨hH', hL', hcs⟩ := rebind_fold st ncs hH hheld (by simp) h' cs hfold
      obtain ⟨c', hc', hcu', _⟩ := hL'.trees r c hc
      have hE₁ := ext_appendList h' ⟨.user, cs⟩
      have hH₁ := homog_writeList hH' hE₁.le mem_or_eq_of_mem_concat hcs
      have hle := le_setTree (h := { h' with lists := h'.lists ++ [⟨.user, cs⟩] }) (c' := { c with list := h'.lists.length })
        hc' (hcu'.trans hcu) hcu
      exact ⟨_, rfl, homog_writeTree hH₁ hle List.mem_or_eq_of_mem_set ⟨_, List.getElem?_concat_length, hcu.symm⟩,
        hL'.trans (hE₁.le.trans hle)⟩

/-- holds in every state `runOps` reaches under `deep` -/
structure Inv (pp : String → Option LTree) (st : State) : Prop where
  memo : ∀ s r, (s, r) ∈ st.memo → ∃ v, pp s = some v ∧ Repr .cache st.heap r v
  homog : Homog st.heap
  held : ∀ r ∈ st.held, RTree .user st.heap r

theorem Inv.init (pp : String → Option LTree) : Inv pp State.init :=
  ⟨fun _ _ h => (nomatch h), ⟨fun _ _ h => (nomatch h), fun _ _ h => (nomatch h)⟩, fun _ h => (nomatch h)⟩

theorem Inv.next {pp : String → Option LTree} {st st' : State} (hI : Inv pp st) (hH : Homog st'.heap) (hL : Le st.heap st'.heap)
    (hm : ∀ s r, (s, r) ∈ st'.memo → (s, r) ∈ st.memo ∨ ∃ v, pp s = some v ∧ Repr .cache st'.heap r v)
    (hh : ∀ r ∈ st'.held, r ∈ st.held ∨ RTree .user st'.heap r) : Inv pp st' := by
  refine ⟨fun s r hmem => (hm s r hmem).elim (fun h0 => ?_) id, hH, fun r hr => (hh r hr).elim (fun h0 => (hI.held r h0).mono hL) id⟩
  obtain ⟨v, hv, hR⟩ := hI.memo s r h0
  exact ⟨v, hv, Repr.mono hL.pres v r hR⟩

theorem Inv.edit {pp : String → Option LTree} {st : State} (hI : Inv pp st) (root : Nat) (path : List Nat) (e : Edit) :
    Inv pp (editOp st root path e) := by
  obtain ⟨h', he, hH', hL'⟩ := editOp_spec st root path e hI.homog hI.held
  rw [he]
  exact hI.next hH' hL' (fun _ _ => .inl) (fun _ => .inl)

theorem Inv.handOut_deep {pp : String → Option LTree} {st : State} (hI : Inv pp st) {r : Nat} {v : LTree}
    (hR : Repr .cache st.heap r v) :
    ∃ h' u, handOut .deep st.heap r = some (h', u) ∧ Inv pp { st with heap := h', held := st.held ++ [u] } ∧
      readTree h' (2 * h'.trees.length + 1) u = some v := by
  obtain ⟨hH', hE', hR'⟩ := allocTree_spec .user v st.heap hI.homog
  refine ⟨(allocTree .user v st.heap).1, (allocTree .user v st.heap).2, by simp only [handOut, hR.read_all],
    hI.next hH' hE'.le (fun _ _ => .inl) (fun u hu => ?_), hR'.read_all⟩
  exact (mem_or_eq_of_mem_concat hu).imp_right fun e => by rw [e]; exact hR'.rtree

theorem parseOp_spec {pp : String → Option LTree} {cap : Nat} {st : State} (hI : Inv pp st) (s : String) :
    Inv pp (parseOp pp .deep cap st s).1 ∧
      ((parseOp pp .deep cap st s).2.bind fun u =>
        readTree (parseOp pp .deep cap st s).1.heap (2 * (parseOp pp .deep cap st s).1.heap.trees.length + 1) u) = pp s := by
  unfold parseOp
  split
  · rename_i s' r hfind
    obtain rfl : s' = s := by simpa using List.find?_some hfind
    obtain ⟨v, hv, hR⟩ := hI.memo s' r (List.mem_of_find?_eq_some hfind)
    have hI₁ : Inv pp { st with memo := (s', r) :: st.memo.filter (·.1 != s') } :=
      hI.next hI.homog (Le.refl _) (fun s2 r2 hm => .inl ?_) (fun _ => .inl)
    · obtain ⟨h', u, hho, hI', hread⟩ := hI₁.handOut_deep hR
      simp only [hho]
      exact ⟨hI', hread.trans hv.symm⟩
    · rcases List.mem_cons.1 hm with e | hm
      · cases e; exact List.mem_of_find?_eq_some hfind
      · exact (List.mem_filter.1 hm).1
  · split
    · rename_i hpp
      exact ⟨hI, by simp [hpp]⟩
    · rename_i v hv
      obtain ⟨hH₁, hE₁, hR₁⟩ := allocTree_spec .cache v st.heap hI.homog
      generalize allocTree .cache v st.heap = p at hH₁ hE₁ hR₁ ⊢
      have hI₁ : Inv pp { st with heap := p.1, memo := ((s, p.2) :: st.memo).take cap } :=
        hI.next hH₁ hE₁.le (fun s2 r2 hm => ?_) (fun _ => .inl)
      · obtain ⟨h', u, hho, hI', hread⟩ := hI₁.handOut_deep hR₁
        simp only [hho]
        exact ⟨hI', hread.trans hv.symm⟩
      · rcases List.mem_cons.1 (List.mem_of_mem_take hm) with e | hm
        · cases e; exact .inr ⟨v, hv, hR₁⟩
        · exact .inl hm

end Ahbicht
