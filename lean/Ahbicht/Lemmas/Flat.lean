import Ahbicht.Model.Keys
/-!
# Functions computed node by node with associative operators do not see what `flat` forgets

The n-ary side is one fold over `NExpr`; the empty run, which `flat` never produces, is the adjoined unit `none`.
-/
namespace Ahbicht

section
variable {M : Type} (leaf : Atom → M) (mul : Op → M → M → M)

mutual
def NExpr.fold : NExpr → Option M
  | .leaf a => some (leaf a)
  | .node op as => NExpr.foldArgs op as
def NExpr.foldArgs (op : Op) : List NExpr → Option M
  | [] => none
  | a :: as => (NExpr.fold a).merge (mul op) (NExpr.foldArgs op as)
end

variable {leaf mul}

variable (hassoc : ∀ o x y z, mul o (mul o x y) z = mul o x (mul o y z))
include hassoc

theorem NExpr.foldArgs_append (o : Op) (xs ys : List NExpr) :
    NExpr.foldArgs leaf mul o (xs ++ ys) = (NExpr.foldArgs leaf mul o xs).merge (mul o) (NExpr.foldArgs leaf mul o ys) := by
  have : Std.Associative (mul o) := ⟨hassoc o⟩
  induction xs with
  | nil => exact Option.merge_none_left.symm
  | cons x xs ih => rw [List.cons_append, NExpr.foldArgs, ih, NExpr.foldArgs, Std.Associative.assoc (op := Option.merge (mul o))]

omit hassoc in
theorem NExpr.foldArgs_argsFor (o : Op) (n : NExpr) : NExpr.foldArgs leaf mul o (n.argsFor o) = n.fold leaf mul := by
  cases n with
  | leaf a => rfl
  | node o' as =>
    simp only [NExpr.argsFor]
    split
    · next h => subst h; rfl
    · exact Option.merge_none_right

theorem fold_flat (f : Expr → M) (D : Expr → Prop) (hD : ∀ {o l r}, D (.bin o l r) → D l ∧ D r)
    (hbin : ∀ {o l r}, D (.bin o l r) → f (.bin o l r) = mul o (f l) (f r)) :
    ∀ t, D t → t.flat.fold (fun a => f (.leaf a)) mul = some (f t)
  | .leaf _, _ => rfl
  | .bin o l r, h => by
    rw [Expr.flat, NExpr.fold, NExpr.foldArgs_append hassoc, NExpr.foldArgs_argsFor, NExpr.foldArgs_argsFor,
      fold_flat f D hD hbin l (hD h).1, fold_flat f D hD hbin r (hD h).2, hbin h]
    rfl

theorem flat_congr_on (f : Expr → M) (D : Expr → Prop) (hD : ∀ {o l r}, D (.bin o l r) → D l ∧ D r)
    (hbin : ∀ {o l r}, D (.bin o l r) → f (.bin o l r) = mul o (f l) (f r))
    {t t' : Expr} (ht : D t) (ht' : D t') (h : t.flat = t'.flat) : f t = f t' :=
  Option.some.inj (by rw [← fold_flat hassoc f D hD hbin t ht, h, fold_flat hassoc f D hD hbin t' ht'])

theorem flat_congr (f : Expr → M) (hbin : ∀ o l r, f (.bin o l r) = mul o (f l) (f r))
    {t t' : Expr} (h : t.flat = t'.flat) : f t = f t' :=
  flat_congr_on hassoc f (fun _ => True) (fun _ => ⟨trivial, trivial⟩) (fun _ => hbin _ _ _) trivial trivial h

end

theorem condKeys_flat {e e' : Expr} (h : e.flat = e'.flat) : condKeys e = condKeys e' :=
  flat_congr (mul := fun _ a b => a ++ b) (fun _ => List.append_assoc) condKeys condKeys_bin h

end Ahbicht
