import Ahbicht.Lemmas.ValTables
import Ahbicht.Lemmas.Except
/-!
# The validation walk of `Model/Val.lean`: what `segLevel` and free-text elements share (`nodeStatus`), what segments and groups
share (`walkNode`), and an invariant rule for the whole walk (`validateGroups_sat`)
-/
namespace Ahbicht

/-- `map_requirement_validation_values`, then `combine_requirements_of_different_levels`, in their documented forms (no table lookup) -/
def nodeStatus (r : EvalRes) (p : Option RVV) (soll : Bool) : Except VErr RVV :=
  liftT (mapSpec r.fulfilled r.ind soll) >>= fun own => liftT (combineSpec p own)

theorem liftT_ok {t : TRes} {v : RVV} : liftT t = .ok v ↔ t = .val v := by
  cases t <;> simp [liftT]

theorem nodeStatus_ok {r : EvalRes} {p : Option RVV} {soll : Bool} {st : RVV} :
    nodeStatus r p soll = .ok st ↔ ∃ own, mapSpec r.fulfilled r.ind soll = .val own ∧ combineSpec p own = .val st := by
  rw [nodeStatus]
  cases mapSpec r.fulfilled r.ind soll with
  | val own => exact liftT_ok.trans ⟨fun h => ⟨own, rfl, h⟩, fun ⟨_, h, h'⟩ => TRes.val.inj h ▸ h'⟩
  | _ => simp [liftT, bind, Except.bind]

theorem nodeStatus_sat (r : EvalRes) {p : Option RVV} (soll : Bool) (hp : okParent p = true) (hf : p ≠ some .IS_FORBIDDEN) :
    Sat (nodeStatus r p soll) (fun st => st.isBase = true ∧ (p = some .IS_OPTIONAL → st ≠ .IS_REQUIRED)) (· = .notImplemented) := by
  have hm : ∀ f i s, Sat (liftT (mapSpec f i s)) (·.isBase = true) (· = .notImplemented) := by decide +kernel
  have hc : ∀ own : RVV, own.isBase = true → Sat (liftT (combineSpec p own))
      (fun st => st.isBase = true ∧ (p = some .IS_OPTIONAL → st ≠ .IS_REQUIRED)) (· = .notImplemented) := by
    revert hp hf
    -- one `decide` per case of `p`: for the whole statement the instance would be larger than `synthInstance.maxSize`
    cases p with
    | none => decide +kernel
    | some p => revert p; decide +kernel
  exact ((hm r.fulfilled r.ind soll).imp hc).bind

theorem segLevel_forbidden (res : NodeRes) (soll : Bool) :
    segLevel res (some .IS_FORBIDDEN) soll = .ok (.IS_FORBIDDEN, none) := if_pos rfl

theorem segLevel_invalid (msg : String) (p : Option RVV) (soll : Bool) (hp : p ≠ some .IS_FORBIDDEN) :
    segLevel (.invalid msg) p soll = .ok (.IS_OPTIONAL, some msg) := if_neg hp

theorem segLevel_ok (r : EvalRes) (p : Option RVV) (soll : Bool) (hp : p ≠ some .IS_FORBIDDEN) :
    segLevel (.ok r) p soll = (nodeStatus r p soll).map (·, r.hints) := by
  simp only [segLevel, if_neg hp, nodeStatus, mapOwn_eq_spec, combine_eq_spec, map_eq_bind, bind_assoc]

theorem validateDE_free (d : String) (r : EvalRes) (i v : Option String) (st : RVV) (soll : Bool) :
    validateDataElement (.free d (.ok r) i v) st soll = nodeStatus r (some st) soll >>= fun b =>
      (liftT (withSuffix b (truthyStr i))).map fun st' => ⟨d, true, st', r.hints, some r.fcOk, r.fcMsg, none, some (v.getD "TEXT")⟩ := by
  simp only [validateDataElement, nodeStatus, mapOwn_eq_spec, combine_eq_spec, map_eq_bind, bind_assoc]

theorem segLevel_sat (res : NodeRes) {p : Option RVV} (soll : Bool) (hp : okParent p = true) :
    Sat (segLevel res p soll) (fun x => x.1.isBase = true ∧ (p = some .IS_OPTIONAL → x.1 ≠ .IS_REQUIRED)) (· = .notImplemented) := by
  by_cases hf : p = some .IS_FORBIDDEN
  · subst hf; exact ⟨rfl, nofun⟩
  · cases res with
    | invalid msg => rw [segLevel_invalid msg p soll hf]; exact ⟨rfl, nofun⟩
    | ok r => rw [segLevel_ok r p soll hf]; exact (nodeStatus_sat r soll hp hf).map

/-- common to `validate_segment_group` and `validate_segment` -/
def walkNode (lvl : Except VErr (RVV × Option String)) (d : String) (kids : RVV → Except VErr (List Out)) : Except VErr (List Out) :=
  lvl >>= fun x => if x.1 = .IS_FORBIDDEN then .ok [segOut d x.1 x.2] else (kids x.1).map (segOut d x.1 x.2 :: ·)

theorem validateSegment_eq (s : Segment) (p : Option RVV) (soll : Bool) :
    validateSegment s p soll = walkNode (segLevel s.res p soll) s.disc fun st => s.des.mapM (validateDataElement · st soll) := by
  simp only [validateSegment, walkNode, map_eq_bind, pure_bind]
  rfl

theorem validateGroup_eq (d : String) (res : NodeRes) (gs : Groups) (ss : List Segment) (p : Option RVV) (soll : Bool) :
    validateGroup (.mk d res gs ss) p soll = walkNode (segLevel res p soll) d fun st =>
      validateGroups gs (some st) soll >>= fun a => (ss.mapM (validateSegment · (some st) soll)).map (a ++ ·.flatten) := by
  simp only [validateGroup, walkNode, map_eq_bind, bind_assoc, pure_bind]
  rfl

theorem validateGroups_cons (g : Group) (rest : Groups) (p : Option RVV) (soll : Bool) :
    validateGroups (.cons g rest) p soll = validateGroup g p soll >>= fun a => (validateGroups rest p soll).map (a ++ ·) := by
  simp only [validateGroups, map_eq_bind]

theorem walkNode_sat {lvl : Except VErr (RVV × Option String)} {d : String} {kids : RVV → Except VErr (List Out)}
    {P : RVV × Option String → Prop} {Q : List Out → Prop} {E : VErr → Prop} (hl : Sat lvl P E)
    (hf : ∀ h, P (.IS_FORBIDDEN, h) → Q [segOut d .IS_FORBIDDEN h])
    (hk : ∀ st h, P (st, h) → st ≠ .IS_FORBIDDEN → Sat (kids st) (fun below => Q (segOut d st h :: below)) E) :
    Sat (walkNode lvl d kids) Q E := by
  refine (hl.imp fun x hx => ?_).bind
  obtain ⟨st, h⟩ := x
  refine .ite (fun hst => ?_) fun hst => (hk st h hx hst).map
  subst hst
  exact hf h hx

/-- `hl`: statuses agree exactly (the children get them), own results only up to `m` -/
theorem walkNode_congr_map {β : Type} (m : Out → β) {P : RVV → Prop} {lvl lvl' : Except VErr (RVV × Option String)} {d : String}
    {kids kids' : RVV → Except VErr (List Out)} {E : VErr → Prop} (hP : Sat lvl (fun x => P x.1) E)
    (hl : lvl.map (fun x => (x.1, m (segOut d x.1 x.2))) = lvl'.map fun x => (x.1, m (segOut d x.1 x.2)))
    (hk : ∀ st, P st → st ≠ .IS_FORBIDDEN → (kids st).map (List.map m) = (kids' st).map (List.map m)) :
    (walkNode lvl d kids).map (List.map m) = (walkNode lvl' d kids').map (List.map m) := by
  cases lvl with
  | error e => cases lvl' <;> cases hl; rfl
  | ok x =>
    cases lvl' with
    | error e => cases hl
    | ok y =>
      obtain ⟨h1, h2⟩ := Prod.mk.inj (Except.ok.inj hl)
      show Except.map _ (ite _ _ _) = Except.map _ (ite _ _ _)
      rw [← h1] at h2 ⊢
      split
      · exact congrArg (Except.ok [·]) h2
      · exact map_congr_map (List.map m) _ (hk x.1 hP ‹_›) fun _ _ hab => List.cons_eq_cons.2 ⟨h2, hab⟩

/-- what `validateGroups_sat` asks of the node-level calls: keep `I`, report `Q`, fail only with `E` -/
structure NodeSat (soll : Bool) (I : Option RVV → Prop) (Q : Out → Prop) (E : VErr → Prop) : Prop where
  lvl : ∀ d res p, I p → Sat (segLevel res p soll) (fun x => (x.1 ≠ .IS_FORBIDDEN → I (some x.1)) ∧ Q (segOut d x.1 x.2)) E
  de : ∀ de st, I (some st) → st ≠ .IS_FORBIDDEN → Sat (validateDataElement de st soll) Q E

variable {soll : Bool} {I : Option RVV → Prop} {Q : Out → Prop} {E : VErr → Prop}

theorem validateSegment_sat (H : NodeSat soll I Q E) (s : Segment) {p : Option RVV} (hp : I p) :
    Sat (validateSegment s p soll) (∀ o ∈ ·, Q o) E := by
  rw [validateSegment_eq]
  refine walkNode_sat (H.lvl s.disc s.res p hp) (fun h hP => List.forall_mem_singleton.2 hP.2) fun st h hP hst => ?_
  exact (Sat.mapM_mem fun de _ => H.de de st (hP.1 hst) hst).imp fun _ hb => List.forall_mem_cons.2 ⟨hP.2, hb⟩

mutual
theorem validateGroup_sat (H : NodeSat soll I Q E) : ∀ (g : Group) {p : Option RVV}, I p →
    Sat (validateGroup g p soll) (∀ o ∈ ·, Q o) E
  | .mk d res gs ss, p, hp => by
    rw [validateGroup_eq]
    refine walkNode_sat (H.lvl d res p hp) (fun h hP => List.forall_mem_singleton.2 hP.2) fun st h hP hst => ?_
    refine ((validateGroups_sat H gs (hP.1 hst)).imp fun a ha => ?_).bind
    refine ((Sat.mapM_mem fun s _ => validateSegment_sat H s (hP.1 hst)).imp fun b hb => ?_).map
    exact List.forall_mem_cons.2 ⟨hP.2, List.forall_mem_append.2 ⟨ha, List.forall_mem_flatten.2 hb⟩⟩
theorem validateGroups_sat (H : NodeSat soll I Q E) : ∀ (gs : Groups) {p : Option RVV}, I p →
    Sat (validateGroups gs p soll) (∀ o ∈ ·, Q o) E
  | .nil, _, _ => fun _ ho => nomatch ho
  | .cons g rest, p, hp => by
    rw [validateGroups_cons]
    refine ((validateGroup_sat H g hp).imp fun a ha => ?_).bind
    exact ((validateGroups_sat H rest hp).imp fun b hb => List.forall_mem_append.2 ⟨ha, hb⟩).map
end

end Ahbicht
