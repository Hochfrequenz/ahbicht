import Ahbicht.Lemmas.Lex
/-!
# Written forms of tokens (spelling, whitespace) and what the scanner makes of them
-/
namespace Ahbicht
open Generated

/-- what may stand between `[` and `]` -/
inductive SpellAtom : Atom → List Char → Prop
  | cond (ds w1 w2 : List Char) : ds ≠ [] → (∀ c ∈ ds, isIntDigit c = true) → AllWs w1 → AllWs w2 →
      SpellAtom (.cond ds) (w1 ++ ds ++ w2)
  | pkg (ds w1 w2 : List Char) : ds ≠ [] → (∀ c ∈ ds, isIntDigit c = true) → AllWs w1 → AllWs w2 →
      SpellAtom (.pkg (ds ++ ['P']) none) (w1 ++ ds ++ 'P' :: w2)
  | pkgRep (ds w1 w2 w3 a b : List Char) (b0 : Char) : ds ≠ [] → (∀ c ∈ ds, isIntDigit c = true) →
      AllWs w1 → AllWs w2 → AllWs w3 → a ≠ [] → (∀ c ∈ a, isUniDigit c = true) → isRepFirstMax b0 = true →
      (∀ c ∈ b, isUniDigit c = true) →
      SpellAtom (.pkg (ds ++ ['P']) (some (a ++ '.' :: '.' :: b0 :: b)))
        (w1 ++ ds ++ 'P' :: (w2 ++ (a ++ '.' :: '.' :: b0 :: b) ++ w3))
  | time (n : Char) (w1 w2 : List Char) : (n = '1' ∨ n = '2' ∨ n = '3') → AllWs w1 → AllWs w2 →
      SpellAtom (.time ['U', 'B', n]) (w1 ++ 'U' :: 'B' :: n :: w2)

/-- one token: any character of the operator's class (letter or MaKo2022 symbol), a bracket, a bracketed atom -/
inductive SpellTok : Tok → List Char → Prop
  | lp (c : Char) : isLpar c = true → SpellTok .lp [c]
  | rp (c : Char) : isRpar c = true → SpellTok .rp [c]
  | or_ (c : Char) : isOpOr c = true → SpellTok (.op .or_) [c]
  | xor_ (c : Char) : isOpXor c = true → SpellTok (.op .xor_) [c]
  | and_ (c : Char) : isOpAnd c = true → SpellTok (.op .and_) [c]
  | atom (o c : Char) (a : Atom) (body : List Char) : isLsqb o = true → isRsqb c = true → SpellAtom a body →
      SpellTok (.atom a) (o :: (body ++ [c]))

/-- whitespace before, between and after the tokens -/
inductive Spelt : List Tok → List Char → Prop
  | nil (w : List Char) : AllWs w → Spelt [] w
  | cons (w s rest : List Char) (t : Tok) (ts : List Tok) : AllWs w → SpellTok t s → Spelt ts rest →
      Spelt (t :: ts) (w ++ s ++ rest)

theorem spelt_ws {w : List Char} (hw : AllWs w) {ts : List Tok} {cs : List Char} (h : Spelt ts cs) :
    Spelt ts (w ++ cs) := by
  cases h with
  | nil w' hw' => exact .nil _ (all_append hw hw')
  | cons w' s rest t ts hw' ht hr => simpa using Spelt.cons (w ++ w') s rest t ts (all_append hw hw') ht hr

theorem spelt_one {t : Tok} {s : List Char} (ht : SpellTok t s) : Spelt [t] s := by
  simpa using Spelt.cons [] s [] t [] allWs_nil ht (.nil [] allWs_nil)

theorem spelt_append {ts₁ ts₂ : List Tok} {a b : List Char} (h₁ : Spelt ts₁ a) (h₂ : Spelt ts₂ b) :
    Spelt (ts₁ ++ ts₂) (a ++ b) := by
  induction h₁ with
  | nil w hw => exact spelt_ws hw h₂
  | cons w s rest t ts hw ht _ ih => simpa using Spelt.cons w s _ t _ hw ht ih

private theorem one {s s' : LState} {c : Char} {t : Option Tok} (h : lexStep s c = some (s', t)) :
    lexFrom s [c] = some (s', match t with | some t => [t] | none => []) := by
  simp [lexFrom, h]; cases t <;> rfl

theorem lex_key {w ds : List Char} (hw : AllWs w) (hne : ds ≠ []) (hds : ∀ c ∈ ds, isIntDigit c = true) :
    lexFrom .open_ (w ++ ds) = some (.digits ds.reverse, []) := by
  obtain ⟨d, ds', rfl⟩ := List.exists_cons_of_ne_nil hne
  obtain ⟨hd, hds'⟩ := List.forall_mem_cons.1 hds
  have e2 := one (show lexStep .open_ d = some (.digits [d], none) by simp [lexStep, classFacts.int_ws hd, hd])
  have e3 := lexFrom_loop (s := .digits) (K := isIntDigit) (fun _ _ h => by simp [lexStep, h]) hds' [d]
  simpa using lexFrom_seq (lexFrom_ws ws_open hw) (lexFrom_seq e2 e3)

theorem lex_pkgHead {w1 ds w2 : List Char} (hw1 : AllWs w1) (hne : ds ≠ [])
    (hds : ∀ c ∈ ds, isIntDigit c = true) (hw2 : AllWs w2) :
    lexFrom .open_ (w1 ++ ds ++ 'P' :: w2) = some (.afterPkg (ds ++ ['P']), []) := by
  have eP := one (show lexStep (.digits ds.reverse) 'P' = some (.afterPkg (ds ++ ['P']), none) by
    simp [lexStep, classFacts.p_not])
  simpa using lexFrom_seq (lex_key hw1 hne hds) (lexFrom_seq eP (lexFrom_ws (ws_afterPkg _) hw2))

/-- a state in which `a` is complete goes on like `.close a` once the digit and `P` tests have failed: whitespace leads to
`.close a`, `]` delivers `a` -/
theorem lex_closing {s : LState} {a : Atom}
    (hs : ∀ c, isIntDigit c = false → isUniDigit c = false → c ≠ 'P' → lexStep s c = lexStep (.close a) c)
    {w : List Char} (hw : AllWs w) {c : Char} (hc : isRsqb c = true) :
    lexFrom s (w ++ [c]) = some (.out, [.atom a]) := by
  have last : lexStep (.close a) c = some (.out, some (.atom a)) := by simp [lexStep, classFacts.rsqb hc, hc]
  cases w with
  | nil =>
    obtain ⟨-, h1, h2, h3⟩ := classFacts.rsqb hc
    exact one ((hs c h1 h2 h3).trans last)
  | cons x xs =>
    obtain ⟨hx, hxs⟩ := List.forall_mem_cons.1 hw
    obtain ⟨h1, h2, h3⟩ := classFacts.ws hx
    simpa using lexFrom_seq (one ((hs x h1 h2 h3).trans (ws_close a x hx)))
      (lexFrom_seq (lexFrom_ws (ws_close a) hxs) (one last))

theorem lex_atom_body {a : Atom} {body : List Char} (h : SpellAtom a body) {c : Char}
    (hc : isRsqb c = true) : lexFrom .open_ (body ++ [c]) = some (.out, [.atom a]) := by
  cases h with
  | cond ds w1 w2 hne hds hw1 hw2 =>
    have e := lex_closing (s := .digits ds.reverse) (a := .cond ds) (fun x h1 _ h3 => by simp [lexStep, h1, h3]) hw2 hc
    simpa using lexFrom_seq (lex_key hw1 hne hds) e
  | pkg ds w1 w2 hne hds hw1 hw2 =>
    have e := one (show lexStep (.afterPkg (ds ++ ['P'])) c = some (.out, some (.atom (.pkg (ds ++ ['P']) none))) by
      simp [lexStep, classFacts.rsqb hc, hc])
    simpa using lexFrom_seq (lex_pkgHead hw1 hne hds hw2) e
  | pkgRep ds w1 w2 w3 a b b0 hne hds hw1 hw2 hw3 hane ha hb0 hb =>
    obtain ⟨a0, a', rfl⟩ := List.exists_cons_of_ne_nil hane
    obtain ⟨ha0, ha'⟩ := List.forall_mem_cons.1 ha
    let key := ds ++ ['P']
    have e1 := one (show lexStep (.afterPkg key) a0 = some (.repMin key [a0], none) by
      simp [lexStep, classFacts.uni_ws ha0, ha0])
    have e2 := lexFrom_loop (s := .repMin key) (K := isUniDigit) (fun _ _ h => by simp [lexStep, h]) ha'
    have e3 (acc) : lexFrom (.repMin key acc) ['.', '.', b0] = some (.repMax key (b0 :: '.' :: '.' :: acc), []) := by
      simp [lexFrom, lexStep, classFacts.dot_not, hb0]
    have e4 := lexFrom_loop (s := .repMax key) (K := isUniDigit) (fun _ _ h => by simp [lexStep, h]) hb
    have e5 (acc) : lexFrom (.repMax key acc) (w3 ++ [c]) = some (.out, [.atom (.pkg key (some acc.reverse))]) :=
      lex_closing (fun x _ h2 _ => by simp [lexStep, h2]) hw3 hc
    simpa [key] using lexFrom_seq (lex_pkgHead hw1 hne hds hw2) (lexFrom_seq e1 (lexFrom_seq (e2 _)
      (lexFrom_seq (e3 _) (lexFrom_seq (e4 _) (e5 _)))))
  | time n w1 w2 hn hw1 hw2 =>
    have e2 : lexFrom .open_ ['U', 'B', n] = some (.close (.time ['U', 'B', n]), []) := by
      simp [lexFrom, lexStep, classFacts.u_not.1, classFacts.u_not.2, hn]
    have e3 := lex_closing (s := .close (.time ['U', 'B', n])) (fun _ _ _ _ => rfl) hw2 hc
    simpa using lexFrom_seq (lexFrom_ws ws_open hw1) (lexFrom_seq e2 e3)

theorem lex_tok {t : Tok} {s : List Char} (h : SpellTok t s) :
    lexFrom .out s = some (.out, [t]) := by
  cases h with
  | lp c hc => simp [lexFrom, lexStep, classFacts.lpar hc, hc]
  | rp c hc => simp [lexFrom, lexStep, classFacts.rpar hc, hc]
  | or_ c hc => simp [lexFrom, lexStep, classFacts.or_ hc, hc]
  | xor_ c hc => simp [lexFrom, lexStep, classFacts.xor_ hc, hc]
  | and_ c hc => simp [lexFrom, lexStep, classFacts.and_ hc, hc]
  | atom o c a body ho hc hbody =>
    have e1 := one (show lexStep .out o = some (.open_, none) by simp [lexStep, classFacts.lsqb ho, ho])
    simpa using lexFrom_seq e1 (lex_atom_body hbody hc)

theorem lex_spelt {ts : List Tok} {cs : List Char} (h : Spelt ts cs) :
    lexFrom .out cs = some (.out, ts) := by
  induction h with
  | nil w hw => exact lexFrom_ws ws_out hw
  | cons w s rest t ts hw ht _ ih =>
    simpa using lexFrom_seq (lexFrom_ws ws_out hw) (lexFrom_seq (lex_tok ht) ih)

end Ahbicht
