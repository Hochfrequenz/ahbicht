import Ahbicht.Model.Async
/-!
# The task/context machine: observed context values do not depend on the schedule

`CtxInv`: each live task's copy of the variable is what `expected` computes from its ancestry and its own program so far.
-/
namespace Ahbicht

theorem upd_same {β : Type} (f : Tid → β) (k) (v : β) : upd f k v k = v := by simp [upd]
theorem upd_other {β : Type} {f : Tid → β} {k x} {v : β} (h : x ≠ k) : upd f k v x = f x := by simp [upd, h]

/-- `parent t = some (p, j)`: task `t` is the one spawned by operation `j` of task `p` -/
structure CWF (P : Tid → List COp) (parent : Tid → Option (Tid × Nat)) : Prop where
  root   : parent 0 = none
  lt     : ∀ t p j, parent t = some (p, j) → p < t
  spawn  : ∀ t i c, (P t)[i]? = some (.spawn c) → parent c = some (t, i)

theorem lastSet_append (l r : List COp) (acc) : lastSet (l ++ r) acc = lastSet r (lastSet l acc) := by
  induction l generalizing acc with
  | nil => rfl
  | cons o l ih => cases o <;> simp [lastSet, ih]

theorem expected_succ {P parent t i o} (h : (P t)[i]? = some o) :
    expected P parent t (i + 1) = lastSet [o] (expected P parent t i) := by
  rw [expected, List.take_add_one, h, lastSet_append, ← expected]; rfl

theorem expected_child {P parent} (wf : CWF P parent) {t i c} (h : (P t)[i]? = some (.spawn c)) :
    expected P parent c 0 = expected P parent t i := by
  have hp := wf.spawn t i c h
  rw [expected]
  simp [lastSet, hp, wf.lt c t i hp]

/-- `pc0` is there for `spawn`: the new task has to start at position 0 (`expected_child`) -/
structure CtxInv (P : Tid → List COp) (parent : Tid → Option (Tid × Nat)) (s : CSt) : Prop where
  ctx : ∀ t, s.live t = true → s.ctx t = expected P parent t (s.pc t)
  pc0 : ∀ t, s.live t = false → s.pc t = 0
  out : ∀ e ∈ s.out, (P e.1)[e.2.1]? = some .get ∧ e.2.2 = expected P parent e.1 e.2.1

theorem CtxInv.init (P parent) (wf : CWF P parent) : CtxInv P parent cinit := by
  refine ⟨fun t ht => ?_, fun _ _ => rfl, fun e he => by simp [cinit] at he⟩
  obtain rfl : t = 0 := by simpa [cinit] using ht
  rw [expected]; simp [cinit, lastSet, wf.root]

/-- `ctx'`, `live'`, `out'` are left open: `set`, `spawn` and `get` are three instances -/
theorem CtxInv.advance {P parent} {s : CSt} (h : CtxInv P parent s) {t : Tid} (hlive : s.live t = true) {o : COp}
    (hop : (P t)[s.pc t]? = some o) {ctx' : Tid → Option Nat} {live' : Tid → Bool} {out' : List (Tid × Nat × Option Nat)}
    (ht : ctx' t = lastSet [o] (s.ctx t)) (hx : ∀ x, x ≠ t → live' x = true → ctx' x = expected P parent x (s.pc x))
    (hl : ∀ x, live' x = false → s.live x = false)
    (ho : ∀ e ∈ out', (P e.1)[e.2.1]? = some .get ∧ e.2.2 = expected P parent e.1 e.2.1) :
    CtxInv P parent ⟨upd s.pc t (s.pc t + 1), ctx', live', out'⟩ := by
  refine ⟨fun x hxl => ?_, fun x hxl => ?_, ho⟩
  · show ctx' x = expected P parent x (upd s.pc t (s.pc t + 1) x)
    by_cases hxt : x = t
    · subst hxt; rw [upd_same, expected_succ hop, ht, h.ctx x hlive]
    · rw [upd_other hxt]; exact hx x hxt hxl
  · show upd s.pc t (s.pc t + 1) x = 0
    have hxt : x ≠ t := fun e => by subst e; rw [hl x hxl] at hlive; cases hlive
    rw [upd_other hxt]; exact h.pc0 x (hl x hxl)

theorem CtxInv.step {P parent} (wf : CWF P parent) {s : CSt} (h : CtxInv P parent s) (t : Tid) :
    CtxInv P parent (cstep P s t) := by
  unfold cstep
  split
  case isFalse => exact h
  rename_i hlive
  split
  · exact h
  · rename_i v hop
    exact h.advance hlive hop (upd_same ..) (fun x hxt hxl => by rw [upd_other hxt]; exact h.ctx x hxl) (fun _ => id) h.out
  · rename_i c hop
    split
    · exact h
    · rename_i hc
      have hc' : s.live c = false := by simpa using hc
      have hct : c ≠ t := fun e => by subst e; rw [hc'] at hlive; cases hlive
      refine h.advance hlive hop (upd_other hct.symm) (fun x hxt hxl => ?_) (fun x hxl => ?_) h.out
      · by_cases hxc : x = c
        · subst hxc; rw [upd_same, h.pc0 x hc', expected_child wf hop, h.ctx t hlive]
        · rw [upd_other hxc] at hxl ⊢; exact h.ctx x hxl
      · by_cases hxc : x = c
        · subst hxc; exact hc'
        · rwa [upd_other hxc] at hxl
  · rename_i hop
    refine h.advance hlive hop rfl (fun x _ hxl => h.ctx x hxl) (fun _ => id) fun e he => ?_
    rcases List.mem_cons.1 he with rfl | he
    · exact ⟨hop, h.ctx t hlive⟩
    · exact h.out e he

theorem CtxInv.run {P parent} (wf : CWF P parent) : ∀ (sched : List Tid) (s : CSt), CtxInv P parent s → CtxInv P parent (crun P s sched)
  | [], _, h => h
  | t :: ts, _, h => CtxInv.run wf ts _ (h.step wf t)

theorem ctx_schedule_independent (P parent) (wf : CWF P parent) (sched : List Tid) :
    ∀ e ∈ (crun P cinit sched).out, e.2.2 = expected P parent e.1 e.2.1 :=
  fun e he => ((CtxInv.run wf sched cinit (.init P parent wf)).out e he).2

end Ahbicht
