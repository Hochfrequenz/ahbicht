import Ahbicht.Lemmas.Parse
/-!
# The condition grammar as written

`Lang`: the `?expression` rule of the Lark grammar as a context-free grammar over tokens, `e ::= e OP e | e e | ( e ) | atom`.
`Fr`: the control skeleton of a frame.
-/
namespace Ahbicht

inductive Lang : List Tok → Prop
  | atom (a : Atom) : Lang [.atom a]
  | paren {ts} : Lang ts → Lang (.lp :: ts ++ [.rp])
  | binop {l r} (o : Op3) : Lang l → Lang r → Lang (l ++ .op o :: r)
  | juxt {l r} : Lang l → Lang r → Lang (l ++ r)

inductive Fr | empty | item | pend deriving DecidableEq, Repr

def Frame.shape : Frame → Fr
  | .empty => .empty | .item _ => .item | .pend _ _ => .pend

@[simp] theorem shape_empty : Frame.empty.shape = .empty := rfl
@[simp] theorem shape_item (c : Chain) : (Frame.item c).shape = .item := rfl
@[simp] theorem shape_pend (c : Chain) (o : Op) : (Frame.pend c o).shape = .pend := rfl

theorem lang_iff_chains {ts : List Tok} : Lang ts ↔ ∃ c, Chains c ts := by
  constructor
  · intro h
    induction h with
    | atom a => exact ⟨_, .atom a⟩
    | paren _ ih => obtain ⟨c, hc⟩ := ih; exact ⟨_, .paren hc⟩
    | binop o _ _ ihl ihr => obtain ⟨cl, hl⟩ := ihl; obtain ⟨cr, hr⟩ := ihr; exact ⟨_, .binop o hl hr⟩
    | juxt _ _ ihl ihr => obtain ⟨cl, hl⟩ := ihl; obtain ⟨cr, hr⟩ := ihr; exact ⟨_, .juxt hl hr⟩
  · rintro ⟨c, h⟩
    induction h with
    | atom a => exact .atom a
    | paren _ ih => exact .paren ih
    | binop o _ _ ihl ihr => exact .binop o ihl ihr
    | juxt _ _ ihl ihr => exact .juxt ihl ihr

end Ahbicht
