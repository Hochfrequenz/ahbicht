import Ahbicht.Model.Chars
/-!
# What the proofs about both scanners need of the extracted character classes: disjoint range tables; one `if` of a cascade inverted
-/
namespace Ahbicht

/-- range tables without a common code point -/
def disj (a b : List (Nat × Nat)) : Bool :=
  a.all fun r => b.all fun s => decide (r.2 < s.1) || decide (s.2 < r.1)

theorem disj_sound {a b : List (Nat × Nat)} (h : disj a b = true) {c : Char}
    (ha : inRanges a c = true) : inRanges b c = false := by
  cases hb : inRanges b c with
  | false => rfl
  | true =>
    exfalso
    simp only [inRanges, List.any_eq_true, Bool.and_eq_true, decide_eq_true_eq] at ha hb
    obtain ⟨r, hr, hr1, hr2⟩ := ha
    obtain ⟨s, hs, hs1, hs2⟩ := hb
    simp only [disj, List.all_eq_true, Bool.or_eq_true, decide_eq_true_eq] at h
    rcases h r hr s hs with h | h <;> omega

theorem inRanges_append (a b : List (Nat × Nat)) (c : Char) : inRanges (a ++ b) c = (inRanges a c || inRanges b c) := by
  simp [inRanges]

theorem ite_some {α : Type} {p : Prop} [Decidable p] {x y : Option α} {r : α} (h : (if p then x else y) = some r) :
    (p ∧ x = some r) ∨ (¬ p ∧ y = some r) := by
  by_cases hp : p
  · exact .inl ⟨hp, by rwa [if_pos hp] at h⟩
  · exact .inr ⟨hp, by rwa [if_neg hp] at h⟩

end Ahbicht
