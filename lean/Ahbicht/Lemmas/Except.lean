/-!
# Computations in `Except`: `Sat x Q E` — `x` yields a result satisfying `Q` or fails with an error satisfying `E`
-/
namespace Ahbicht

def Sat {ε α : Type} (x : Except ε α) (Q : α → Prop) (E : ε → Prop) : Prop :=
  match x with
  | .ok a => Q a
  | .error e => E e

/-- so that a fact about an extracted table can be decided in the form in which `Sat.bind` and `Sat.map` take it -/
instance Sat.decidable {ε α : Type} (x : Except ε α) (Q : α → Prop) (E : ε → Prop) [DecidablePred Q] [DecidablePred E] :
    Decidable (Sat x Q E) :=
  match x with
  | .ok a => inferInstanceAs (Decidable (Q a))
  | .error e => inferInstanceAs (Decidable (E e))

namespace Sat
variable {ε α β : Type} {x : Except ε α} {Q Q' : α → Prop} {E E' : ε → Prop}

theorem ok (h : Sat x Q E) : ∀ a, x = .ok a → Q a := fun _ hx => by subst hx; exact h
theorem error (h : Sat x Q E) : ∀ e, x = .error e → E e := fun _ hx => by subst hx; exact h

theorem of_ok (h : ∀ a, x = .ok a → Q a) : Sat x Q fun _ => True := by
  cases x with
  | ok a => exact h a rfl
  | error e => trivial

theorem mono (h : Sat x Q E) (hQ : ∀ a, Q a → Q' a) (hE : ∀ e, E e → E' e) : Sat x Q' E' := by
  cases x with
  | ok a => exact hQ a h
  | error e => exact hE e h

theorem imp (h : Sat x Q E) (hQ : ∀ a, Q a → Q' a) : Sat x Q' E := h.mono hQ fun _ he => he

theorem bind {f : α → Except ε β} {R : β → Prop} (h : Sat x (fun a => Sat (f a) R E) E) : Sat (x >>= f) R E := by
  cases x <;> exact h

theorem map {f : α → β} {R : β → Prop} (h : Sat x (fun a => R (f a)) E) : Sat (x.map f) R E := by
  cases x <;> exact h

/-- induction along `mapM`: `R` relates the arguments to the results -/
theorem mapM {f : α → Except ε β} {P : α → β → Prop} {R : List α → List β → Prop} (nil : R [] [])
    (cons : ∀ a l b bs, P a b → R l bs → R (a :: l) (b :: bs)) :
    ∀ {l : List α}, (∀ a ∈ l, Sat (f a) (P a) E) → Sat (l.mapM f) (R l) E
  | [], _ => nil
  | a :: l, h => by
    rw [List.mapM_cons]
    refine bind ((h a List.mem_cons_self).imp fun b hb => bind ?_)
    exact (mapM nil cons fun a' ha' => h a' (List.mem_cons_of_mem _ ha')).imp fun bs hbs => cons a l b bs hb hbs

theorem mapM_mem {f : α → Except ε β} {R : β → Prop} {l : List α} (h : ∀ a ∈ l, Sat (f a) R E) :
    Sat (l.mapM f) (fun bs => ∀ b ∈ bs, R b) E :=
  mapM (P := fun _ => R) (R := fun _ bs => ∀ b ∈ bs, R b) (fun _ hb => nomatch hb)
    (fun _ _ _ _ hb hbs => List.forall_mem_cons.2 ⟨hb, hbs⟩) h

theorem ite {c : Prop} [Decidable c] {y : Except ε α} (hx : c → Sat x Q E) (hy : ¬c → Sat y Q E) :
    Sat (if c then x else y) Q E := by
  split
  · exact hx ‹_›
  · exact hy ‹_›

theorem exists_ok (h : Sat x Q fun _ => False) : ∃ a, x = .ok a ∧ Q a := by
  cases x with
  | ok a => exact ⟨a, rfl, h⟩
  | error e => exact h.elim

theorem triv : Sat x (fun _ => True) (fun _ => True) := by cases x <;> trivial

end Sat

abbrev RaisesIff {ε α : Type} (x : Except ε α) (c : Bool) (e₀ : ε) (Q : α → Prop) : Prop :=
  Sat x (fun a => c = false ∧ Q a) fun e => c = true ∧ e = e₀

theorem RaisesIff.split {ε α : Type} {x : Except ε α} {c : Bool} {e₀ : ε} {Q : α → Prop} (h : RaisesIff x c e₀ Q) :
    (c = true → x = .error e₀) ∧ (c = false → ∃ a, x = .ok a ∧ Q a) := by
  cases x with
  | ok a => exact ⟨fun hc => absurd (h.1.symm.trans hc) Bool.false_ne_true, fun _ => ⟨a, rfl, h.2⟩⟩
  | error e => exact ⟨fun _ => congrArg _ h.2, fun hc => absurd (hc.symm.trans h.1) Bool.false_ne_true⟩

theorem RaisesIff.error_iff {ε α : Type} {x : Except ε α} {c : Bool} {e₀ : ε} {Q : α → Prop} (h : RaisesIff x c e₀ Q) :
    x = .error e₀ ↔ c = true :=
  ⟨fun hx => by subst hx; exact h.1, h.split.1⟩

theorem RaisesIff.bind_or {ε α β : Type} {x : Except ε α} {f : α → Except ε β} {c d : Bool} {e₀ : ε} {P : α → Prop} {Q : β → Prop}
    (hx : RaisesIff x c e₀ P) (hf : ∀ a, P a → RaisesIff (f a) d e₀ Q) : RaisesIff (x >>= f) (c || d) e₀ Q := by
  cases x with
  | error e => exact ⟨by rw [hx.1]; rfl, hx.2⟩
  | ok a => rw [hx.1]; exact hf a hx.2

/-- with `bind_assoc` and `pure_bind`: a `do` block and its description by `>>=` and `map` have the same normal form -/
theorem map_eq_bind {ε α β : Type} (f : α → β) (x : Except ε α) : x.map f = x >>= fun a => pure (f a) := by
  cases x <;> rfl

theorem bind_congr_map {ε α β γ δ : Type} (m1 : α → γ) (m2 : β → δ) {x y : Except ε α} {f g : α → Except ε β}
    (hxy : x.map m1 = y.map m1) (hfg : ∀ a b, m1 a = m1 b → (f a).map m2 = (g b).map m2) :
    (x >>= f).map m2 = (y >>= g).map m2 := by
  cases x with
  | error e => cases y <;> cases hxy; rfl
  | ok a =>
    cases y with
    | error e => cases hxy
    | ok b => exact hfg a b (Except.ok.inj hxy)

theorem map_congr_map {ε α β γ δ : Type} (m1 : α → γ) (m2 : β → δ) {x y : Except ε α} {f g : α → β}
    (hxy : x.map m1 = y.map m1) (hfg : ∀ a b, m1 a = m1 b → m2 (f a) = m2 (g b)) :
    (x.map f).map m2 = (y.map g).map m2 :=
  bind_congr_map m1 m2 (f := fun a => .ok (f a)) (g := fun a => .ok (g a)) hxy fun a b h => congrArg Except.ok (hfg a b h)

theorem mapM_congr_mem {ε α β : Type} {g h : α → Except ε β} {l : List α} (H : ∀ a ∈ l, g a = h a) : l.mapM g = l.mapM h := by
  induction l with
  | nil => rfl
  | cons a l ih => rw [List.mapM_cons, List.mapM_cons, H a List.mem_cons_self, ih fun b hb => H b (List.mem_cons_of_mem _ hb)]

theorem mapM_congr_map {ε α β γ : Type} {f g : α → Except ε β} (k : α → α) (m : β → γ) {l : List α}
    (h : ∀ a ∈ l, (f a).map m = (g (k a)).map m) :
    (l.mapM f).map (List.map m) = ((l.map k).mapM g).map (List.map m) := by
  induction l with
  | nil => rfl
  | cons a l ih =>
    simp only [List.map_cons, List.mapM_cons]
    refine bind_congr_map m _ (h a List.mem_cons_self) fun b b' hb => ?_
    refine bind_congr_map (List.map m) _ (ih fun a ha => h a (List.mem_cons_of_mem _ ha)) fun bs bs' hbs => ?_
    exact congrArg Except.ok (List.cons_eq_cons.2 ⟨hb, hbs⟩)

end Ahbicht
