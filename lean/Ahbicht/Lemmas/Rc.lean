import Ahbicht.Model.RcSpec
import Ahbicht.Lemmas.CFV
import Ahbicht.Lemmas.Except
/-!
# The requirement transformer computes `denote` on the documented domain and raises exactly on structural invalidity
-/
namespace Ahbicht

theorem Assigns.bin {rcEnv hintEnv o l r} (h : Assigns rcEnv hintEnv (.bin o l r)) :
    Assigns rcEnv hintEnv l ∧ Assigns rcEnv hintEnv r := by
  obtain ⟨hrc, hh⟩ := h
  rw [condKeys_bin, List.forall_mem_append] at hrc hh
  exact ⟨⟨hrc.1, hh.1⟩, ⟨hrc.2, hh.2⟩⟩

/-- what a successfully evaluated node knows about the expression it came from -/
structure Good (rcEnv : List Char → Option CFV) (t : Expr) (n : Node) : Prop where
  state : n.state = denote rcEnv t
  neutral : n.state = .N ↔ neutralOnly t = true
  isHint : n.isHint = t.isHintLeaf
  isFc : n.isFc = t.isFcLeaf

@[simp] theorem fcInit_comp (st : CFV) (h : Option String) (x : Option FExpr) : fcInit (.comp st h x) = x := by
  cases x <;> rfl

/-- `_connect`, on the two collected expressions -/
def fcConn (o : BOp) : Option FExpr → Option FExpr → Option FExpr
  | some e, some p => some (.bin o e.grp p.grp)
  | some e, none => some e
  | none, some p => some p.grp
  | none, none => none

theorem fcConnect_eq (o : BOp) (x : Option FExpr) (b : Node) : fcConnect o x b = fcConn o x (fcInit b) := by
  cases b with
  | comp st h y => cases x <;> cases y <;> rfl
  | _ => cases x <;> rfl

/-- what the transformer collects, read off the tree: an attached format constraint counts only if its partner is FULFILLED or a hint -/
def collect (rcEnv : List Char → Option CFV) : Expr → Option FExpr
  | .leaf (.cond k) => if catOf k = some .fc then some (.key k) else none
  | .leaf _ => none
  | .bin .and_ l r => fcConn .and_ (collect rcEnv l) (collect rcEnv r)
  | .bin .or_ l r => fcConn .or_ (collect rcEnv l) (collect rcEnv r)
  | .bin .xor_ l r => fcConn .xor_ (collect rcEnv l) (collect rcEnv r)
  | .bin .then_ l r =>
    if l.isFcLeaf then
      if denote rcEnv r = .F ∨ r.isHintLeaf = true then fcConn .and_ (collect rcEnv l) (collect rcEnv r) else none
    else
      if denote rcEnv l = .F ∨ l.isHintLeaf = true then fcConn .and_ (collect rcEnv r) (collect rcEnv l) else none

theorem isHint_cases {n : Node} (h : n.isHint = true) : ∃ k t, n = .hint k t := by
  cases n <;> first | exact ⟨_, _, rfl⟩ | cases h

theorem isFcLeaf_iff {t : Expr} : t.isFcLeaf = true ↔ ∃ k, t = .leaf (.cond k) ∧ catOf k = some .fc := by
  cases t with
  | leaf a => cases a <;> simp [Expr.isFcLeaf]
  | bin o l r => simp [Expr.isFcLeaf]

theorem isHintLeaf_iff {t : Expr} : t.isHintLeaf = true ↔ ∃ k, t = .leaf (.cond k) ∧ catOf k = some .hint := by
  cases t with
  | leaf a => cases a <;> simp [Expr.isHintLeaf]
  | bin o l r => simp [Expr.isHintLeaf]

theorem fcLeaf_not_hint {t : Expr} (h : t.isFcLeaf = true) : t.isHintLeaf = false ∧ neutralOnly t = true := by
  obtain ⟨k, rfl, hk⟩ := isFcLeaf_iff.1 h
  simp [Expr.isHintLeaf, neutralOnly, hk]

theorem hintLeaf_neutral {t : Expr} (h : t.isHintLeaf = true) : neutralOnly t = true := by
  obtain ⟨k, rfl, hk⟩ := isHintLeaf_iff.1 h
  simp [neutralOnly, hk]

theorem WF_bin {o : Op} {l r : Expr} (h : WF (.bin o l r) = true) : WF l = true ∧ WF r = true := by
  cases o <;> simp [WF] at h <;> simp [h]

theorem WF_then {l r : Expr} (h : WF (.bin .then_ l r) = true) :
    (l.isFcLeaf = true ∧ (r.isHintLeaf = true ∨ neutralOnly r = false)) ∨
    (l.isFcLeaf = false ∧ r.isFcLeaf = true ∧ (l.isHintLeaf = true ∨ neutralOnly l = false)) := by
  rw [WF, Bool.and_eq_true] at h
  cases hfl : l.isFcLeaf with
  | true => obtain ⟨lh, ln⟩ := fcLeaf_not_hint hfl; simpa [hfl, lh, ln] using h.2
  | false => simpa [hfl] using h.2

theorem WF_atoms {t : Expr} (h : WF t = true) : ∀ a ∈ t.atoms, ∃ k, a = .cond k ∧ (catOf k).isSome = true := by
  induction t with
  | leaf a =>
    intro b hb
    rw [List.mem_singleton.1 hb]
    cases a <;> first | exact ⟨_, rfl, h⟩ | cases h
  | bin o l r ihl ihr =>
    intro a ha
    exact (List.mem_append.1 ha).elim (ihl (WF_bin h).1 a) (ihr (WF_bin h).2 a)

theorem tokenErr_none_of_WF {t : Expr} (hwf : WF t = true) : t.atoms.findSome? Atom.tokenErr = none := by
  rw [List.findSome?_eq_none_iff]
  intro a ha
  obtain ⟨k, rfl, hk⟩ := WF_atoms hwf a ha
  obtain ⟨c, hc⟩ := Option.isSome_iff_exists.1 hk
  rw [Atom.tokenErr, hc]

section
variable {rcEnv : List Char → Option CFV} {hintEnv : List Char → Option String}

theorem mkEnv_eq_some {k : List Char} {n : Node} : mkEnv rcEnv hintEnv k = some n ↔
    (catOf k = some .rc ∧ ∃ st, rcEnv k = some st ∧ .rc k st = n) ∨
    (catOf k = some .hint ∧ ∃ s, hintEnv k = some s ∧ .hint k s = n) ∨ (catOf k = some .fc ∧ .fc k = n) := by
  unfold mkEnv
  cases catOf k with
  | none => simp
  | some c => cases c <;> simp

theorem mkEnv_fc (k : List Char) (n : Node) (h : mkEnv rcEnv hintEnv k = some n) :
    (n = .fc k ∧ catOf k = some .fc) ∨ fcInit n = none := by
  rcases mkEnv_eq_some.1 h with ⟨_, _, _, rfl⟩ | ⟨_, _, _, rfl⟩ | ⟨hc, rfl⟩
  · exact .inr rfl
  · exact .inr rfl
  · exact .inl ⟨rfl, hc⟩

theorem mkEnv_key (k : List Char) (n : Node) (h : mkEnv rcEnv hintEnv k = some n) : ∀ f, fcInit n = some f → f = .key k :=
  fun _ hf => (mkEnv_fc k n h).elim (fun hn => by rw [hn.1] at hf; exact (Option.some.inj hf).symm)
    fun h0 => nomatch h0.symm.trans hf

theorem rcEvaluation_eq {t : Expr} (hwf : WF t = true) (ha : Assigns rcEnv hintEnv t) :
    rcEvaluation rcEnv hintEnv t = (evalRc (mkEnv rcEnv hintEnv) t).map report := by
  have h1 : (condKeys t).any (fun k => catOf k == some .rc && (rcEnv k).isNone) = false :=
    List.any_eq_false.2 fun k hk h => by
      obtain ⟨st, hs, _⟩ := ha.rc k hk (beq_iff_eq.1 (Bool.and_eq_true _ _ ▸ h).1)
      simp [hs] at h
  have h2 : (condKeys t).any (fun k => catOf k == some .hint && (hintEnv k).isNone) = false :=
    List.any_eq_false.2 fun k hk h => by
      obtain ⟨s, hs⟩ := ha.hint k hk (beq_iff_eq.1 (Bool.and_eq_true _ _ ▸ h).1)
      simp [hs] at h
  simp [rcEvaluation, tokenErr_none_of_WF hwf, h1, h2]

/-- the callback of `RequirementConstraintTransformer` for a composition node -/
def rcStep (o : Op) (a b : Node) : Except EvalErr Node :=
  match o with
  | .and_ => pure (andComp a b)
  | .or_ => orXorComp .or_ a b
  | .xor_ => orXorComp .xor_ a b
  | .then_ => thenAlso a b

theorem evalRc_bin (env : Env) (o : Op) (l r : Expr) :
    evalRc env (.bin o l r) = evalRc env l >>= fun a => evalRc env r >>= fun b => rcStep o a b := by
  cases o <;> rfl

attribute [local simp] Node.state Node.isHint Node.isFc fcInit denote neutralOnly Expr.isHintLeaf Expr.isFcLeaf collect in
theorem good_leaf {k : List Char} (hwf : WF (.leaf (.cond k)) = true) (ha : Assigns rcEnv hintEnv (.leaf (.cond k))) :
    ∃ n, mkEnv rcEnv hintEnv k = some n ∧ Good rcEnv (.leaf (.cond k)) n ∧ fcInit n = collect rcEnv (.leaf (.cond k)) := by
  have hk : k ∈ condKeys (.leaf (.cond k)) := List.mem_singleton_self k
  obtain ⟨c, hc⟩ := Option.isSome_iff_exists.1 (show (catOf k).isSome = true from hwf)
  cases c with
  | rc =>
    obtain ⟨st, hst, hne⟩ := ha.rc k hk hc
    refine ⟨.rc k st, mkEnv_eq_some.2 (.inl ⟨hc, st, hst, rfl⟩), ⟨?_, ?_, ?_, ?_⟩, ?_⟩ <;>
      simp [hc, hst, hne]
  | hint =>
    obtain ⟨s, hs⟩ := ha.hint k hk hc
    refine ⟨.hint k s, mkEnv_eq_some.2 (.inr (.inl ⟨hc, s, hs, rfl⟩)), ⟨?_, ?_, ?_, ?_⟩, ?_⟩ <;>
      simp [hc]
  | fc =>
    refine ⟨.fc k, mkEnv_eq_some.2 (.inr (.inr ⟨hc, rfl⟩)), ⟨?_, ?_, ?_, ?_⟩, ?_⟩ <;>
      simp [hc]


theorem Good.op {f : CFV → CFV → CFV} (hf : ∀ x y, f x y = .N ↔ x = .N ∧ y = .N) {o : Op} {l r : Expr} {a b : Node}
    (hd : denote rcEnv (.bin o l r) = f (denote rcEnv l) (denote rcEnv r)) (ga : Good rcEnv l a) (gb : Good rcEnv r b)
    (h : Option String) (x : Option FExpr) : Good rcEnv (.bin o l r) (.comp (f a.state b.state) h x) :=
  ⟨by rw [hd, ← ga.state, ← gb.state]; rfl,
    (hf _ _).trans (by rw [ga.neutral, gb.neutral, neutralOnly, Bool.and_eq_true]), rfl, rfl⟩

theorem orXor_char (o : BOp) (ho : o = .or_ ∨ o = .xor_) {l r : Expr} {a b : Node} (ga : Good rcEnv l a) (gb : Good rcEnv r b)
    (fa : fcInit a = collect rcEnv l) (fb : fcInit b = collect rcEnv r) :
    RaisesIff (orXorComp o a b) ((neutralOnly l != neutralOnly r) || (l.isHintLeaf && r.isFcLeaf) || (l.isFcLeaf && r.isHintLeaf))
      .invalidExpr fun n => Good rcEnv (.bin o.toOp l r) n ∧ fcInit n = collect rcEnv (.bin o.toOp l r) := by
  have hN : ((a.state = .N ∧ b.state ≠ .N) ∨ (b.state = .N ∧ a.state ≠ .N)) ↔ (neutralOnly l != neutralOnly r) = true := by
    rw [ne_eq, ne_eq, ga.neutral, gb.neutral]
    cases neutralOnly l <;> cases neutralOnly r <;> decide
  unfold orXorComp
  rw [ga.isHint, gb.isHint, ga.isFc, gb.isFc, Bool.and_comm r.isHintLeaf, Bool.or_assoc]
  simp only [hN]
  generalize (neutralOnly l != neutralOnly r) = c0
  generalize (l.isHintLeaf && r.isFcLeaf || l.isFcLeaf && r.isHintLeaf) = c1
  cases c0 <;> cases c1
  · refine ⟨rfl, ?_, by rw [fcInit_comp, fcConnect_eq, fa, fb]; rcases ho with rfl | rfl <;> rfl⟩
    rcases ho with rfl | rfl
    · exact Good.op CFV.or_eq_N rfl ga gb _ _
    · exact Good.op CFV.xor_eq_N rfl ga gb _ _
  all_goals exact ⟨rfl, rfl⟩

theorem thenAlso'_char {fcn other : Node} {t : Expr} (g : Good rcEnv t other)
    (h : t.isHintLeaf = true ∨ neutralOnly t = false) :
    ∃ n, thenAlso' fcn other = .ok n ∧ n.state = denote rcEnv t ∧ (n.state = .N ↔ neutralOnly t = true) ∧
      n.isHint = false ∧ n.isFc = false ∧
      fcInit n = (if denote rcEnv t = .F ∨ t.isHintLeaf = true then fcConn .and_ (fcInit fcn) (fcInit other) else none) := by
  rw [← g.state, ← g.isHint]
  unfold thenAlso'
  by_cases hs : other.state = .N
  · have hh : other.isHint = true := by
      rw [g.isHint]
      exact h.resolve_right (by rw [g.neutral.1 hs]; exact Bool.noConfusion)
    obtain ⟨k, tx, rfl⟩ := isHint_cases hh
    exact ⟨_, rfl, rfl, g.neutral, rfl, rfl, by rw [fcInit_comp, fcConnect_eq, if_pos (.inr rfl)]⟩
  · rw [if_pos hs]
    refine ⟨_, rfl, rfl, g.neutral, rfl, rfl, ?_⟩
    have hnh : other.isHint ≠ true := fun h' => by obtain ⟨k, tx, rfl⟩ := isHint_cases h'; exact hs rfl
    rw [fcInit_comp]
    by_cases hF : other.state = .F
    · rw [if_pos hF, if_pos (.inl hF), fcConnect_eq]
    · rw [if_neg hF, if_neg (not_or.2 ⟨hF, hnh⟩)]

theorem fcInit_andComp (a b : Node) : fcInit (andComp a b) = fcConn .and_ (fcInit a) (fcInit b) := by
  rw [andComp, fcInit_comp, fcConnect_eq]

theorem rcStep_char {o : Op} {l r : Expr} {a b : Node} (hwf : WF (.bin o l r) = true)
    (ga : Good rcEnv l a) (gb : Good rcEnv r b) (fa : fcInit a = collect rcEnv l) (fb : fcInit b = collect rcEnv r) :
    RaisesIff (rcStep o a b)
      ((o == .or_ || o == .xor_) && (neutralOnly l != neutralOnly r || l.isHintLeaf && r.isFcLeaf || l.isFcLeaf && r.isHintLeaf))
      .invalidExpr fun n => Good rcEnv (.bin o l r) n ∧ fcInit n = collect rcEnv (.bin o l r) := by
  cases o with
  | and_ =>
    exact ⟨rfl, Good.op CFV.and_eq_N rfl ga gb _ _, by rw [fcInit_andComp, fa, fb]; rfl⟩
  | or_ => exact orXor_char .or_ (.inl rfl) ga gb fa fb
  | xor_ => exact orXor_char .xor_ (.inr rfl) ga gb fa fb
  | then_ =>
    show RaisesIff (if a.isFc = true then thenAlso' a b else thenAlso' b a) _ _ _
    rw [ga.isFc]
    rcases WF_then hwf with ⟨hfl, hp⟩ | ⟨hfl, hrf, hp⟩
    · obtain ⟨n, hn, hst, hne, hh, hf, hc⟩ := thenAlso'_char (fcn := a) gb hp
      rw [hfl, if_pos rfl, hn]
      refine ⟨rfl, ⟨?_, ?_, hh, hf⟩, ?_⟩
      · rw [hst, denote, hfl]; rfl
      · rw [hne, neutralOnly, (fcLeaf_not_hint hfl).2, Bool.true_and]
      · rw [hc, fa, fb, collect, hfl]; rfl
    · obtain ⟨n, hn, hst, hne, hh, hf, hc⟩ := thenAlso'_char (fcn := b) ga hp
      rw [hfl, if_neg Bool.false_ne_true, hn]
      refine ⟨rfl, ⟨?_, ?_, hh, hf⟩, ?_⟩
      · rw [hst, denote, hfl]; rfl
      · rw [hne, neutralOnly, (fcLeaf_not_hint hrf).2, Bool.and_true]
      · rw [hc, fa, fb, collect, hfl]; rfl

theorem eval_collect (t : Expr) (hwf : WF t = true) (ha : Assigns rcEnv hintEnv t) :
    RaisesIff (evalRc (mkEnv rcEnv hintEnv) t) (invalidAt t) .invalidExpr fun n =>
      Good rcEnv t n ∧ fcInit n = collect rcEnv t := by
  induction t with
  | leaf a =>
    cases a with
    | cond k =>
      obtain ⟨n, hn, g⟩ := good_leaf hwf ha
      rw [evalRc, hn]
      exact ⟨rfl, g⟩
    | pkg k r => cases hwf
    | time k => cases hwf
  | bin o l r ihl ihr =>
    rw [evalRc_bin, invalidAt, Bool.or_assoc]
    exact .bind_or (ihl (WF_bin hwf).1 ha.bin.1) fun a ⟨ga, fa⟩ => .bind_or (ihr (WF_bin hwf).2 ha.bin.2) fun b ⟨gb, fb⟩ =>
      rcStep_char hwf ga gb fa fb

theorem eval_char (t : Expr) (hwf : WF t = true) (ha : Assigns rcEnv hintEnv t) :
    (invalidAt t = true → evalRc (mkEnv rcEnv hintEnv) t = .error .invalidExpr) ∧
    (invalidAt t = false → ∃ n, evalRc (mkEnv rcEnv hintEnv) t = .ok n ∧ Good rcEnv t n) :=
  RaisesIff.split ((eval_collect t hwf ha).imp fun _ h => ⟨h.1, h.2.1⟩)

end

theorem fcInit_orXor {o : BOp} {a b n : Node} (h : orXorComp o a b = .ok n) : fcInit n = fcConn o (fcInit a) (fcInit b) := by
  unfold orXorComp at h
  split at h
  · cases h
  · split at h
    · cases h
    · cases h; rw [fcInit_comp, fcConnect_eq]

theorem fcInit_thenAlso' {x y n : Node} (h : thenAlso' x y = .ok n) {f : FExpr} (hf : fcInit n = some f) :
    fcConn .and_ (fcInit x) (fcInit y) = some f := by
  unfold thenAlso' at h
  split at h
  · cases h
    rw [fcInit_comp] at hf
    split at hf
    · rw [← fcConnect_eq]; exact hf
    · cases hf
  · split at h
    · cases h; rw [← fcConnect_eq, ← hf, fcInit_comp]
    · cases h

/-- under any environment: what holds of the leaves' contributions and survives bracketing and joining holds of whatever is collected -/
theorem collected_induct {env : Env} (P : FExpr → Prop) (hgrp : ∀ f, P f → P f.grp)
    (hbin : ∀ o e p, P e → P p → P (.bin o e.grp p.grp)) (t : Expr)
    (hleaf : ∀ k ∈ condKeys t, ∀ n f, env k = some n → fcInit n = some f → P f) :
    Sat (evalRc env t) (fun n => ∀ f, fcInit n = some f → P f) fun _ => True := by
  have conn : ∀ {o : BOp} {x y : Option FExpr}, (∀ f, x = some f → P f) → (∀ f, y = some f → P f) →
      ∀ f, fcConn o x y = some f → P f := by
    intro o x y hx hy f hf
    cases x <;> cases y <;> cases hf
    · exact hgrp _ (hy _ rfl)
    · exact hx _ rfl
    · exact hbin o _ _ (hx _ rfl) (hy _ rfl)
  induction t with
  | leaf a =>
    cases a with
    | cond k =>
      rw [evalRc]
      cases he : env k with
      | none => trivial
      | some m => exact fun f => hleaf k (List.mem_singleton_self k) m f he
    | pkg k r => trivial
    | time k => trivial
  | bin o l r ihl ihr =>
    rw [condKeys_bin, List.forall_mem_append] at hleaf
    rw [evalRc_bin]
    refine .bind ((ihl hleaf.1).imp fun a ka => .bind ((ihr hleaf.2).imp fun b kb => .of_ok fun n hn f hf => ?_))
    cases o with
    | and_ => cases hn; exact conn ka kb f (fcInit_andComp a b ▸ hf)
    | or_ => exact conn ka kb f (fcInit_orXor (o := .or_) hn ▸ hf)
    | xor_ => exact conn ka kb f (fcInit_orXor (o := .xor_) hn ▸ hf)
    | then_ =>
      have hn' : (if a.isFc = true then thenAlso' a b else thenAlso' b a) = .ok n := hn
      split at hn'
      · exact conn ka kb f (fcInit_thenAlso' hn' hf)
      · exact conn kb ka f (fcInit_thenAlso' hn' hf)

end Ahbicht
