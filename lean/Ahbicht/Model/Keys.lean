import Ahbicht.Model.Expr
import Ahbicht.Model.CFV
/-!
# M-KEYS (part 1) — condition key → kind of node (`condition_node_distinction.py`)
-/
namespace Ahbicht

inductive Kind | rc | hint | fc | package | repeatability
  deriving DecidableEq, Repr, Inhabited

/-- decimal value of an ASCII digit string -/
def digitsToNat (ds : List Char) : Nat := ds.foldl (fun n c => 10 * n + (c.toNat - '0'.toNat)) 0

/-- `derive_condition_node_type` on the number (requirement and repeatability constraints are both
treated as requirement constraints by every caller); `none` = `ValueError` -/
def nodeTypeNat (n : Nat) : Option Kind :=
  if 1 ≤ n ∧ n ≤ 499 then some .rc
  else if 500 ≤ n ∧ n ≤ 900 then some .hint
  else if 901 ≤ n ∧ n ≤ 999 then some .fc
  else if 2000 ≤ n ∧ n ≤ 2499 then some .repeatability
  else none

def nodeType (key : List Char) : Option Kind :=
  if key.getLast? = some 'P' then some .package else nodeTypeNat (digitsToNat key)

/-- the three-way categorisation used by evaluation -/
inductive Cat | rc | hint | fc deriving DecidableEq, Repr, Inhabited

def catOf (key : List Char) : Option Cat :=
  match nodeType key with
  | some .rc | some .repeatability => some .rc
  | some .hint => some .hint
  | some .fc => some .fc
  | _ => none

def Atom.condKey? : Atom → Option (List Char) | .cond k => some k | _ => none
def Atom.pkgKey? : Atom → Option (List Char) | .pkg k _ => some k | _ => none
def Atom.timeKey? : Atom → Option (List Char) | .time k => some k | _ => none

/-- condition keys of the tree in document order (with repetitions) -/
def condKeys (e : Expr) : List (List Char) := e.atoms.filterMap Atom.condKey?
def pkgKeys (e : Expr) : List (List Char) := e.atoms.filterMap Atom.pkgKey?
def timeKeys (e : Expr) : List (List Char) := e.atoms.filterMap Atom.timeKey?

theorem condKeys_leaf_cond (k : List Char) : condKeys (.leaf (.cond k)) = [k] := rfl
theorem condKeys_bin (o : Op) (l r : Expr) : condKeys (.bin o l r) = condKeys l ++ condKeys r :=
  List.filterMap_append
theorem pkgKeys_bin (o : Op) (l r : Expr) : pkgKeys (.bin o l r) = pkgKeys l ++ pkgKeys r :=
  List.filterMap_append
theorem timeKeys_bin (o : Op) (l r : Expr) : timeKeys (.bin o l r) = timeKeys l ++ timeKeys r :=
  List.filterMap_append

theorem mem_condKeys {e : Expr} {k : List Char} : k ∈ condKeys e ↔ Atom.cond k ∈ e.atoms := by
  rw [condKeys, List.mem_filterMap]
  exact ⟨fun ⟨a, ha, hk⟩ => by cases a <;> cases hk; exact ha, fun h => ⟨_, h, rfl⟩⟩
theorem mem_pkgKeys {e : Expr} {k : List Char} : k ∈ pkgKeys e ↔ ∃ r, Atom.pkg k r ∈ e.atoms := by
  rw [pkgKeys, List.mem_filterMap]
  exact ⟨fun ⟨a, ha, hk⟩ => by cases a <;> cases hk; exact ⟨_, ha⟩, fun ⟨_, h⟩ => ⟨_, h, rfl⟩⟩
theorem mem_timeKeys {e : Expr} {k : List Char} : k ∈ timeKeys e ↔ Atom.time k ∈ e.atoms := by
  rw [timeKeys, List.mem_filterMap]
  exact ⟨fun ⟨a, ha, hk⟩ => by cases a <;> cases hk; exact ha, fun h => ⟨_, h, rfl⟩⟩

end Ahbicht
